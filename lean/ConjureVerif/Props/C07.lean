import ConjureVerif.Lemmas.MacroEmit
import ConjureVerif.Gen.MacroClientSrc
import ConjureVerif.Gen.MacroPathSrc
import ConjureVerif.Gen.MacroEndpointsSrc
import ConjureVerif.Lemmas.Pins
/-
C07 — Parameter values cannot alter the request URI structure and decode back exactly.

The theorems (and `raw_no`, `path_no`, the steps they share) are proved for an arbitrary
percent-encode table `tbl` satisfying `Good tbl`; `gen_component_good` says the table re-extracted from
uri_builder.rs is one (C04 instantiates them with it), and `gen_macro_copy_equal` ties the duplicated constant in conjure-macros to it.
-/
namespace ConjureVerif.C07
open ConjureVerif ConjureVerif.Uri

/-- what the proofs need of a percent-encode table: it escapes `%` and every delimiter the URI
    structure or the server-side decoders give meaning to -/
structure Good (tbl : List Nat) : Prop where
  pct : 37 ∈ tbl       -- %
  slash : 47 ∈ tbl     -- /
  quest : 63 ∈ tbl     -- ?
  hash : 35 ∈ tbl      -- #
  amp : 38 ∈ tbl       -- &
  eq : 61 ∈ tbl        -- =
  plus : 43 ∈ tbl      -- +

/-- RFC 3986 `unreserved` or one of the sub-delims `! ' ( ) *` -/
def isPlainUriByte (b : Nat) : Bool :=
  (48 ≤ b && b ≤ 57) || (65 ≤ b && b ≤ 90) || (97 ≤ b && b ≤ 122) ||
  b = 45 || b = 46 || b = 95 || b = 126 || b = 33 || b = 39 || b = 40 || b = 41 || b = 42

theorem gen_extract_ok : Gen.Uri.extractOk = true := by decide

theorem gen_component_good : Good Gen.Uri.component := by
  constructor <;> decide

/-- every ASCII byte the table leaves unescaped is `unreserved` or `! ' ( ) *`; in particular all
    controls, space, `"`, `<`, `>`, `\`, `^`, backtick, `{`, `|`, `}` and every delimiter are escaped -/
theorem gen_component_alphabet :
    ∀ b : Fin 128, inSet Gen.Uri.component b.val = false → isPlainUriByte b.val = true := by
  decide +kernel

/-- the copy of the set in conjure-macros (literal segments and query keys) is the same set -/
theorem gen_macro_copy_equal : Gen.Uri.componentMacros = Gen.Uri.component := by decide

/-- every percent-encode call in both files names `COMPONENT` -/
theorem gen_encode_calls : Gen.Uri.pushEscapedSets = ["COMPONENT"] ∧
    Gen.Uri.macroEncodeSets = ["COMPONENT", "COMPONENT"] := by decide

def Bytes (bs : List Nat) : Prop := ∀ b ∈ bs, b < 256

/-- well-formed request: literal segments contain none of `/ ? #`; parameter values, query keys and query values are
    bytes -/
structure WF (r : Req) : Prop where
  lits : ∀ s, Seg.lit s ∈ r.segs → 47 ∉ s ∧ 63 ∉ s ∧ 35 ∉ s
  params : ∀ v, Seg.param v ∈ r.segs → Bytes v
  keys : ∀ kv ∈ r.query, Bytes kv.1 ∧ Bytes kv.2

/-- **no delimiter escapes**: encoded text never contains `/ ? # & = +` -/
theorem C07_no_delimiter (tbl : List Nat) (g : Good tbl) (v : List Nat) (hv : Bytes v) :
    47 ∉ encode tbl v ∧ 63 ∉ encode tbl v ∧ 35 ∉ encode tbl v ∧ 38 ∉ encode tbl v ∧
    61 ∉ encode tbl v ∧ 43 ∉ encode tbl v :=
  ⟨not_mem_encode tbl v hv g.slash (by decide) (by decide), not_mem_encode tbl v hv g.quest (by decide) (by decide),
   not_mem_encode tbl v hv g.hash (by decide) (by decide), not_mem_encode tbl v hv g.amp (by decide) (by decide),
   not_mem_encode tbl v hv g.eq (by decide) (by decide), not_mem_encode tbl v hv g.plus (by decide) (by decide)⟩

/-- **values decode back exactly**: percent-decoding and form-decoding invert the client's escaping
    for every byte string -/
theorem C07_decode_encode (tbl : List Nat) (g : Good tbl) (v : List Nat) (hv : Bytes v) :
    decode (encode tbl v) = v ∧ formDecode (encode tbl v) = v := by
  have h1 := decode_encode tbl g.pct v hv
  obtain ⟨-, -, -, -, -, h43⟩ := C07_no_delimiter tbl g v hv
  exact ⟨h1, by rw [formDecode, plusToSpace_id _ h43, h1]⟩

/-- the server's `path_param` turns the raw text of one encoded parameter into exactly one value,
    the original -/
theorem C07_path_param_one_value (tbl : List Nat) (g : Good tbl) (v : List Nat) (hv : Bytes v) :
    pathParam (encode tbl v) = [v] := by
  rw [pathParam, splitOn_not_mem 47 _ (C07_no_delimiter tbl g v hv).1, List.map_singleton,
    (C07_decode_encode tbl g v hv).1]

theorem raw_no (tbl : List Nat) (g : Good tbl) (r : Req) (wf : WF r) (s : Seg) (hs : s ∈ r.segs) :
    47 ∉ s.raw tbl ∧ 63 ∉ s.raw tbl ∧ 35 ∉ s.raw tbl := by
  cases s with
  | lit l => exact wf.lits l hs
  | param v =>
    obtain ⟨h47, h63, h35, -⟩ := C07_no_delimiter tbl g v (wf.params v hs)
    exact ⟨h47, h63, h35⟩

theorem path_no (tbl : List Nat) (g : Good tbl) (r : Req) (wf : WF r) :
    63 ∉ pathBytes tbl r.segs ∧ 35 ∉ pathBytes tbl r.segs :=
  ⟨not_mem_sepBy (by decide) id (List.forall_mem_map.mpr fun s hs => (raw_no tbl g r wf s hs).2.1),
   not_mem_sepBy (by decide) id (List.forall_mem_map.mpr fun s hs => (raw_no tbl g r wf s hs).2.2)⟩

/-- **exactly the template's segments**: the path of the built URI splits into one raw segment per
    template component, in order — literal segments unchanged, parameter segments the escaped values
    (which decode to the originals by `C07_path_param_one_value`) -/
theorem C07_segments (tbl : List Nat) (g : Good tbl) (r : Req) (wf : WF r) :
    rawSegments (buildBuf tbl (r.pushes tbl)) = r.segs.map (Seg.raw tbl) := by
  rw [rawSegments, pathOf, splitFirst_buildBuf tbl r (path_no tbl g r wf).1, pathBytes,
    splitOn_joinSegs _ (List.forall_mem_map.mpr fun s hs => (raw_no tbl g r wf s hs).1)]
  rfl

/-- **exactly one pair per supplied value, in order, decoding to it**: with no query parameter the
    URI has no query; otherwise the server's query parser returns the supplied pairs -/
theorem C07_pairs (tbl : List Nat) (g : Good tbl) (r : Req) (wf : WF r) :
    (r.query = [] → queryOf (buildBuf tbl (r.pushes tbl)) = none) ∧
    (r.query ≠ [] → ∃ q, queryOf (buildBuf tbl (r.pushes tbl)) = some q ∧ parseQuery q = r.query) := by
  rw [queryOf, splitFirst_buildBuf tbl r (path_no tbl g r wf).1]
  refine ⟨fun hq => by simp [hq], fun hq => ⟨_, if_neg (by simpa using hq), parseQuery_queryText tbl _ fun kv hkv => ?_⟩⟩
  obtain ⟨hk, hv⟩ := wf.keys kv hkv
  obtain ⟨-, -, -, k38, k61, -⟩ := C07_no_delimiter tbl g kv.1 hk
  obtain ⟨-, -, -, v38, -, -⟩ := C07_no_delimiter tbl g kv.2 hv
  exact ⟨by simp [pair, k38, v38], k61, (C07_decode_encode tbl g _ hk).2, (C07_decode_encode tbl g _ hv).2⟩

/-- **no fragment**: `#` never occurs in the built URI -/
theorem C07_no_fragment (tbl : List Nat) (g : Good tbl) (r : Req) (wf : WF r) :
    35 ∉ buildBuf tbl (r.pushes tbl) := by
  rw [buildBuf_eq, List.mem_append, not_or]
  refine ⟨(path_no tbl g r wf).2, not_mem_queryBytes (by decide) (by decide) fun kv hkv => ?_⟩
  obtain ⟨-, -, k35, -⟩ := C07_no_delimiter tbl g kv.1 (wf.keys kv hkv).1
  obtain ⟨-, -, v35, -⟩ := C07_no_delimiter tbl g kv.2 (wf.keys kv hkv).2
  simp [pair, k35, v35]

/-- **valid syntax**: with the extracted table, every byte of an escaped value is `unreserved`, one of
    `! ' ( ) *`, or `%` — all legal in an RFC 3986 path segment and query, a `%` as the head of a `%XX` triplet
    (that two hex digits follow is not part of the statement) -/
theorem C07_value_alphabet (v : List Nat) (hv : Bytes v) (x : Nat) (hx : x ∈ encode Gen.Uri.component v) :
    isPlainUriByte x = true ∨ x = 37 :=
  forall_mem_encode (P := fun x => isPlainUriByte x = true ∨ x = 37) _ v hv (.inr rfl) (by decide)
    (fun b _ hs => .inl (gen_component_alphabet
      ⟨b, Nat.lt_of_not_le (of_decide_eq_false (Bool.or_eq_false_iff.mp hs).1)⟩ hs)) x hx

/-- `build` completes whenever the request has a path (every generated client: the template of a definition begins
    with `/`) and the URI is within `http::Uri`'s length limit -/
theorem C07_build_total_partial (tbl : List Nat) (r : Req) (hs : r.segs ≠ [])
    (h : (buildBuf tbl (r.pushes tbl)).length ≤ maxUriLen) :
    build tbl (r.pushes tbl) = .uri (buildBuf tbl (r.pushes tbl)) := by
  obtain ⟨s, ss, hsg⟩ := List.exists_cons_of_ne_nil hs
  rw [build_eq, if_pos ⟨by simp [buildBuf_eq, hsg, pathBytes, joinSegs], h⟩]

/-- **`build` panics beyond that limit**: a path parameter value of 65 534 bytes is a witness (and so is every longer
    one, `build_pathParam_long`), so the statement's "rather than panicking" is false of the code (recorded as a known
    finding) -/
theorem C07_build_panics_witness :
    build Gen.Uri.component [.pathParam (List.replicate 65534 97)] = .panic :=
  build_pathParam_long _ _ (by rw [List.length_replicate]; exact Nat.le_refl _)

/-- **`build` panics for a request without a single path segment**, with or without query arguments (recorded as a
    known finding).  `#[conjure_client]` accepts `path = ""` (path.rs: "paths must either be empty or start with
    `/`"), and every call of such a method is such a request; so is a call of a method whose template holds only
    sequence parameters when all of them are given no text (`macroReq` then has no segment) -/
theorem C07_build_panics_no_path (tbl : List Nat) (q : List (List Nat × List Nat)) :
    build tbl (Req.pushes tbl { segs := [], query := q }) = .panic := by
  rw [build_eq, buildBuf_eq, if_neg]
  cases q <;> simp [pathBytes, joinSegs, queryBytes]

/-! #### clients derived by `#[conjure_client]`: any template, any arguments -/
section Macro
open ConjureVerif.MacroEmit

/-- the functions of conjure-macros the model of the derivation transcribes -/
theorem gen_macro_sources :
    Gen.MacroPathSrc.hashes.lookup "fn parse" = some 6349193773656881568 /- "{letpath=path_lit.value();ifpath.is_empty(){returnOk(vec![]);}letSome(path)=path.strip_prefix('/')else{returnErr(Error::new_spanned(path_lit,\"pathsmusteitherbeemptyorstartwith`/`\",));};letcomponents=path.split('/').map(|component|{matchcomponent.strip_prefix('{').and_then(|c|c.strip_suffix('}')){Some(parameter)=>PathComponent::Parameter(parameter.to_string()),None=>PathComponent::Literal(component.to_string()),}}).collect();Ok(components)}" -/ ∧
    Gen.MacroClientSrc.hashes.lookup "fn add_path_components" = some 11982624397980029467 /- "{letpath_params=endpoint.args.iter().filter_map(|a|matcha{ArgType::Path(param)=>Some((param.attr.name(&param.ident),param)),_=>None,}).collect::<HashMap<_,_>>();letmutpath_writes=vec![];letmutliteral_buf=String::new();forcomponentin&endpoint.path{matchcomponent{PathComponent::Literal(lit)=>{literal_buf.push('/');literal_buf.push_str(&percent_encoding::percent_encode(lit.as_bytes(),COMPONENT).to_string(),);}PathComponent::Parameter(param)=>{if!literal_buf.is_empty(){path_writes.push(quote!{#builder.push_literal(#literal_buf);});literal_buf=String::new();}letparam=path_params[param];letident=&param.ident;letencoder=param.attr.encoder.as_ref().map_or_else(||quote!(conjure_http::client::DisplayEncoder),|e|quote!(#e),);path_writes.push(quote!{let__path_args=<#encoderasconjure_http::client::EncodeParam<_>>::encode(#ident)?;for__path_argin__path_args{#builder.push_path_parameter_raw(&__path_arg);}});}}}if!literal_buf.is_empty(){path_writes.push(quote!{#builder.push_literal(#literal_buf);});}quote!{#(#path_writes)*}}" -/ ∧
    Gen.MacroClientSrc.hashes.lookup "fn add_query_arg" = some 5830468533810908243 /- "{letident=&arg.ident;letname=percent_encoding::percent_encode(arg.attr.name.value().as_bytes(),COMPONENT).to_string();letencoder=arg.attr.encoder.as_ref().map_or_else(||quote!(conjure_http::client::DisplayEncoder),|e|quote!(#e),);quote!{let__query_args=<#encoderasconjure_http::client::EncodeParam<_>>::encode(#ident)?;for__query_argin__query_args{#builder.push_query_parameter_raw(#name,&__query_arg);}}}" -/ := by
  simp only [Gen.MacroPathSrc.hashes, Gen.MacroClientSrc.hashes, ↓List.lookup_cons_ite, ↓String.reduceEq, ↓reduceIte, and_self]

/-- **a derived method's URI is a well-formed request's URI**: for every template the macro accepts, every
    assignment of path and query arguments and every list of texts their encoders return, the statements the macro
    derives write the bytes of a request in normal form — one constant segment per literal component, escaped at
    expansion time and so free of `/ ? #` whatever the template says; one segment per text of the argument a
    `{name}` component names; one pair per text of each query argument under its escaped key.  `C07_segments`,
    `C07_pairs`, `C07_no_fragment` therefore hold of it. -/
theorem C07_macro_request (tbl : List Nat) (g : Good tbl) (tmpl : List Comp) (pathArgs queryArgs : List MArg)
    (vals : Nat → List (List Nat)) (cs : List MCall) (h : writes tbl tmpl pathArgs queryArgs = some cs)
    (hl : ∀ l, Comp.lit l ∈ tmpl → Bytes l) (hv : ∀ i, ∀ v ∈ vals i, Bytes v) (hk : ∀ a ∈ queryArgs, Bytes a.name) :
    buildBuf tbl (pushes vals cs) = buildBuf tbl ((macroReq tbl tmpl pathArgs queryArgs vals).pushes tbl) ∧
    WF (macroReq tbl tmpl pathArgs queryArgs vals) := by
  obtain ⟨pcs, hp, rfl⟩ := Option.map_eq_some_iff.mp h
  -- each segment is as `WF` asks: a literal is escaped text, a parameter one of the supplied texts
  have hs : ∀ s ∈ (macroReq tbl tmpl pathArgs queryArgs vals).segs,
      match s with | .lit l => 47 ∉ l ∧ 63 ∉ l ∧ 35 ∉ l | .param v => Bytes v := by
    intro s hs
    obtain ⟨c, hc, hs⟩ := List.mem_flatMap.mp hs
    cases c with
    | lit l =>
      cases List.mem_singleton.mp hs
      obtain ⟨h47, h63, h35, -⟩ := C07_no_delimiter tbl g l (hl l hc)
      exact ⟨h47, h63, h35⟩
    | param n =>
      simp only [segsOf] at hs
      split at hs
      · obtain ⟨w, hw, rfl⟩ := List.mem_map.mp hs
        exact hv _ w hw
      · cases hs
  refine ⟨?_, fun s h => hs _ h, fun v h => hs _ h, fun kv hkv => ?_⟩
  · unfold buildBuf Req.pushes
    rw [pushes_append, List.foldl_append, List.foldl_append, foldl_pathWrites tbl pathArgs vals tmpl [] pcs hp,
      foldl_path, pushes_queryWrites]
    simp [macroReq, joinSegs]
  · simp only [macroReq, List.mem_flatMap, List.mem_map] at hkv
    obtain ⟨a, ha, w, hw, rfl⟩ := hkv
    exact ⟨hk a ha, hv a.slot w hw⟩

/-- **exactly the template's segments**: the path a derived method builds has one raw segment per literal and one per
    text supplied for a parameter, in template order — a trailing literal, a literal between two parameters, an empty
    component are all there; nothing a value contains adds or removes one -/
theorem C07_macro_segments (tbl : List Nat) (g : Good tbl) (tmpl : List Comp) (pathArgs queryArgs : List MArg)
    (vals : Nat → List (List Nat)) (cs : List MCall) (h : writes tbl tmpl pathArgs queryArgs = some cs)
    (hl : ∀ l, Comp.lit l ∈ tmpl → Bytes l) (hv : ∀ i, ∀ v ∈ vals i, Bytes v) (hk : ∀ a ∈ queryArgs, Bytes a.name) :
    rawSegments (buildBuf tbl (pushes vals cs)) =
      (tmpl.flatMap (segsOf tbl pathArgs vals)).map (Seg.raw tbl) := by
  obtain ⟨hb, wf⟩ := C07_macro_request tbl g tmpl pathArgs queryArgs vals cs h hl hv hk
  rw [hb, C07_segments tbl g _ wf]; rfl

/-- **the server reads back the supplied query values under the declared keys**, whatever bytes keys and values hold -/
theorem C07_macro_pairs (tbl : List Nat) (g : Good tbl) (tmpl : List Comp) (pathArgs queryArgs : List MArg)
    (vals : Nat → List (List Nat)) (cs : List MCall) (h : writes tbl tmpl pathArgs queryArgs = some cs)
    (hl : ∀ l, Comp.lit l ∈ tmpl → Bytes l) (hv : ∀ i, ∀ v ∈ vals i, Bytes v) (hk : ∀ a ∈ queryArgs, Bytes a.name)
    (hq : queryArgs.flatMap (fun a => (vals a.slot).map (fun v => (a.name, v))) ≠ []) :
    ∃ q, queryOf (buildBuf tbl (pushes vals cs)) = some q ∧
      parseQuery q = queryArgs.flatMap (fun a => (vals a.slot).map (fun v => (a.name, v))) := by
  obtain ⟨hb, wf⟩ := C07_macro_request tbl g tmpl pathArgs queryArgs vals cs h hl hv hk
  rw [hb]; exact (C07_pairs tbl g _ wf).2 hq

/-- what `#[conjure_endpoints]` derives for a path and a query argument: the key it looks the value up under is the
declared name (for a path argument without one, its identifier), never a name meant for logs and never an escaped form -/
theorem gen_macro_server_sources :
    Gen.MacroEndpointsSrc.hashes.lookup "fn generate_path_arg" = some 10877479656661404801 /- "{letname=&arg.ident;letparam=match&arg.params.name{Some(name)=>name.value(),None=>arg.ident.to_string(),};letlog_as=arg.log_as();letdecoder=arg.params.decoder.as_ref().map_or_else(||quote!(conjure_http::server::FromStrDecoder),|d|quote!(#d),);quote!{let#name=conjure_http::private::path_param::<_,#decoder>(&self.runtime,&#parts,#param,#log_as,)?;}}" -/ ∧
    Gen.MacroEndpointsSrc.hashes.lookup "fn generate_query_arg" = some 13113819969034372553 /- "{letname=&arg.ident;letkey=&arg.params.name;letlog_as=arg.log_as();letdecoder=arg.params.decoder.as_ref().map_or_else(||quote!(conjure_http::server::FromStrDecoder),|d|quote!(#d),);quote!{let#name=conjure_http::private::query_param::<_,#decoder>(&self.runtime,&#query_params,#key,#log_as,)?;}}" -/ := by
  simp only [Gen.MacroEndpointsSrc.hashes, ↓List.lookup_cons_ite, ↓String.reduceEq, ↓reduceIte, and_self]

/-- **the derived server reads what the derived client wrote**: for every template, every assignment of arguments with
distinct query keys and every list of texts, the values the derived server finds under a query argument's declared
key in the URI the derived client built are exactly the texts supplied for it, in order — whatever bytes keys and
texts hold -/
theorem C07_macro_server_reads (tbl : List Nat) (g : Good tbl) (tmpl : List Comp) (pathArgs queryArgs : List MArg)
    (vals : Nat → List (List Nat)) (cs : List MCall) (h : writes tbl tmpl pathArgs queryArgs = some cs)
    (hl : ∀ l, Comp.lit l ∈ tmpl → Bytes l) (hv : ∀ i, ∀ v ∈ vals i, Bytes v) (hk : ∀ a ∈ queryArgs, Bytes a.name)
    (hd : (queryArgs.map (·.name)).Nodup)
    (hq : queryArgs.flatMap (fun a => (vals a.slot).map (fun v => (a.name, v))) ≠ []) :
    ∃ q, queryOf (buildBuf tbl (pushes vals cs)) = some q ∧
      ∀ a ∈ queryArgs, serverQueryValues (parseQuery q) a.name = vals a.slot := by
  obtain ⟨q, h1, h2⟩ := C07_macro_pairs tbl g tmpl pathArgs queryArgs vals cs h hl hv hk hq
  refine ⟨q, h1, ?_⟩
  intro a ha
  rw [h2]
  exact serverQueryValues_flatMap vals queryArgs a ha hd

/-- **the template is read as written**: the components `parse` returns print back to the template, none of them
    holds a `/` -/
theorem C07_macro_template (p : List Nat) (comps : List Comp) (h : parse p = some comps) :
    (p = [] ∧ comps = [] ∨ p ≠ [] ∧ joinSegs (comps.map Comp.text) = p) ∧ (∀ c ∈ comps, 47 ∉ c.text) := by
  unfold parse at h
  split at h <;> cases h
  · exact ⟨.inl ⟨rfl, rfl⟩, List.forall_mem_nil _⟩
  · refine ⟨.inr ⟨List.cons_ne_nil _ _, ?_⟩, fun c hc => ?_⟩
    · rw [List.map_map, List.map_congr_left (f := Comp.text ∘ compOf) (g := id) fun s _ => compOf_text s, List.map_id]
      exact (splitOn_spec 47 _).2
    · obtain ⟨s, hs, rfl⟩ := List.mem_map.mp hc
      rw [compOf_text]; exact (splitOn_spec 47 _).1 s hs

/-- the derivation succeeds exactly when every `{name}` of the template names a path argument -/
theorem C07_macro_derivable (tbl : List Nat) (tmpl : List Comp) (pathArgs queryArgs : List MArg) :
    (writes tbl tmpl pathArgs queryArgs).isSome =
      tmpl.all (named pathArgs) := by
  unfold writes; rw [Option.isSome_map, pathWrites_isSome]

/-- `/a b/{x}/c/d` with `x` given `["p/q", ""]` and a query argument `k&` given `["1"]`:
    `/a%20b/p%2Fq//c/d?k%26=1` -/
example : (writes Gen.Uri.component [.lit [97, 32, 98], .param [120], .lit [99], .lit [100]] [⟨[120], 0⟩] [⟨[107, 38], 1⟩]).map
      (fun cs => buildBuf Gen.Uri.component (pushes (fun i => if i = 0 then [[112, 47, 113], []] else [[49]]) cs)) =
    some [47, 97, 37, 50, 48, 98, 47, 112, 37, 50, 70, 113, 47, 47, 99, 47, 100, 63, 107, 37, 50, 54, 61, 49] := by
  decide +kernel

example : parse [47, 97, 47, 123, 120, 125, 47, 123, 47, 123, 125] =
    some [.lit [97], .param [120], .lit [123], .param []] := by decide +kernel
end Macro

example : WF { segs := [.lit [97], .param [47, 63, 35, 37, 32, 195, 169]], query := [([107], [38, 61, 43])] } := by
  -- each membership is one of those listed, and then the claim is about literals
  refine ⟨?_, ?_, ?_⟩
  · rintro s (_ | ⟨_, _ | ⟨_, ⟨⟩⟩⟩); decide
  · rintro v (_ | ⟨_, _ | ⟨_, ⟨⟩⟩⟩); unfold Bytes; decide
  · rintro kv (_ | ⟨_, ⟨⟩⟩); unfold Bytes; decide

example : buildBuf Gen.Uri.component
    (Req.pushes Gen.Uri.component { segs := [.lit [97], .param [47, 32]], query := [([107], [38])] }) =
    [47, 97, 47, 37, 50, 70, 37, 50, 48, 63, 107, 61, 37, 50, 54] := by decide +kernel

end ConjureVerif.C07

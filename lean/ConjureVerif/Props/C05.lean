import ConjureVerif.Lemmas.WrapUnknown
import ConjureVerif.Gen.UnknownFieldsSrc
import ConjureVerif.Gen.JsonDeServerSrc
import ConjureVerif.Gen.SmileDeServerSrc
import ConjureVerif.Gen.WrapTable
import ConjureVerif.Gen.JsonDeSrc
import ConjureVerif.Gen.SmileDeClientSrc
import ConjureVerif.Lemmas.Pins
/-
C05 — Servers reject and clients ignore unknown object fields at every nesting depth (the positions `Inject` has).

`Inject ty d d' k` (Lemmas/WrapInject) says: `d'` is `d` plus one member named `k`, holding any
document, in an object that is read as a struct not declaring `k`, anywhere below optionals,
sequences, tuples, map values, newtypes (aliases), struct fields and enum-variant payloads.
-/
namespace ConjureVerif.C05
open ConjureVerif ConjureVerif.Data ConjureVerif.Wrap

/-- the server deserializers of both formats are the wrapper chain with `UnknownFieldsBehavior`
    around the format's value behaviour; the client ones are not -/
theorem gen_server_behaviors :
    Gen.JsonDeServerSrc.hashes.lookup "de::Deserializer<'de> for &'amutServerDeserializer<R>::impl_deserialize_body!" = some 6916776558792606862 /- "&'amutserde_json::Deserializer<R>,UnknownFieldsBehavior<ValueBehavior>" -/ ∧
    Gen.SmileDeServerSrc.hashes.lookup "de::Deserializer<'de> for &'amutServerDeserializer<'de,R>::impl_deserialize_body!" = some 3095571778591537364 /- "&'amutserde_smile::Deserializer<'de,R>,UnknownFieldsBehavior<ValueBehavior>" -/ ∧
    Gen.JsonDeSrc.hashes.lookup "de::Deserializer<'de> for &'amutClientDeserializer<R>::impl_deserialize_body!" = some 14994026435428837345 /- "&'amutserde_json::Deserializer<R>,ValueBehavior" -/ ∧
    Gen.SmileDeClientSrc.hashes.lookup "de::Deserializer<'de> for &'amutClientDeserializer<'de,R>::impl_deserialize_body!" = some 16925310013538528895 /- "&'amutserde_smile::Deserializer<'de,R>,ValueBehavior" -/ := by
  simp only [Gen.JsonDeServerSrc.hashes, Gen.SmileDeServerSrc.hashes, Gen.JsonDeSrc.hashes,
    Gen.SmileDeClientSrc.hashes, ↓List.lookup_cons_ite, ↓String.reduceEq, ↓reduceIte, and_self]

/-- the public entry points of both formats (`server_from_*` / `client_from_*` for reader, str and slice in JSON,
    for reader, slice and mut slice in Smile) each build the deserializer of their own side, read one value through it
    and then require the end of the input; each constructor only wraps the format's own deserializer -/
theorem gen_entry_points :
    Gen.JsonDeServerSrc.hashes.lookup "fn server_from_reader" = some 7523097036048896092 /- "{letmutde=ServerDeserializer::from_reader(reader);letvalue=T::deserialize(&mutde)?;de.end()?;Ok(value)}" -/ ∧
    Gen.JsonDeServerSrc.hashes.lookup "fn server_from_str" = some 15181452474860574692 /- "{letmutde=ServerDeserializer::from_str(s);letvalue=T::deserialize(&mutde)?;de.end()?;Ok(value)}" -/ ∧
    Gen.JsonDeServerSrc.hashes.lookup "fn server_from_slice" = some 9726012999506703783 /- "{letmutde=ServerDeserializer::from_slice(s);letvalue=T::deserialize(&mutde)?;de.end()?;Ok(value)}" -/ ∧
    Gen.JsonDeServerSrc.hashes.lookup "ServerDeserializer<IoRead<R>>::from_reader" = some 10251595329488348137 /- "{ServerDeserializer(serde_json::Deserializer::from_reader(reader))}" -/ ∧
    Gen.JsonDeServerSrc.hashes.lookup "ServerDeserializer<SliceRead<'a>>::from_slice" = some 405430658713935032 /- "{ServerDeserializer(serde_json::Deserializer::from_slice(bytes))}" -/ ∧
    Gen.JsonDeServerSrc.hashes.lookup "ServerDeserializer<StrRead<'a>>::from_str" = some 4795122866350345893 /- "{ServerDeserializer(serde_json::Deserializer::from_str(s))}" -/ ∧
    Gen.JsonDeServerSrc.hashes.lookup "ServerDeserializer<R>::end" = some 1737334758775072841 /- "{self.0.end()}" -/ ∧
    Gen.SmileDeServerSrc.hashes.lookup "fn server_from_reader" = some 7523097036048896092 /- "{letmutde=ServerDeserializer::from_reader(reader);letvalue=T::deserialize(&mutde)?;de.end()?;Ok(value)}" -/ ∧
    Gen.SmileDeServerSrc.hashes.lookup "fn server_from_slice" = some 9726012999506703783 /- "{letmutde=ServerDeserializer::from_slice(s);letvalue=T::deserialize(&mutde)?;de.end()?;Ok(value)}" -/ ∧
    Gen.SmileDeServerSrc.hashes.lookup "fn server_from_mut_slice" = some 4995850889360896672 /- "{letmutde=ServerDeserializer::from_mut_slice(s);letvalue=T::deserialize(&mutde)?;de.end()?;Ok(value)}" -/ ∧
    Gen.SmileDeServerSrc.hashes.lookup "ServerDeserializer<'_,IoRead<R>>::from_reader" = some 6593618484806081815 /- "{ServerDeserializer(serde_smile::Deserializer::from_reader(reader))}" -/ ∧
    Gen.SmileDeServerSrc.hashes.lookup "ServerDeserializer<'a,SliceRead<'a>>::from_slice" = some 14582929309990185278 /- "{ServerDeserializer(serde_smile::Deserializer::from_slice(bytes))}" -/ ∧
    Gen.SmileDeServerSrc.hashes.lookup "ServerDeserializer<'a,MutSliceRead<'a>>::from_mut_slice" = some 11885368390158098473 /- "{ServerDeserializer(serde_smile::Deserializer::from_mut_slice(bytes))}" -/ ∧
    Gen.SmileDeServerSrc.hashes.lookup "ServerDeserializer<'de,R>::end" = some 1737334758775072841 /- "{self.0.end()}" -/ ∧
    Gen.JsonDeSrc.hashes.lookup "fn client_from_reader" = some 11588487256068215368 /- "{letmutde=ClientDeserializer::from_reader(reader);letvalue=T::deserialize(&mutde)?;de.end()?;Ok(value)}" -/ ∧
    Gen.JsonDeSrc.hashes.lookup "fn client_from_str" = some 10162431175074099656 /- "{letmutde=ClientDeserializer::from_str(s);letvalue=T::deserialize(&mutde)?;de.end()?;Ok(value)}" -/ ∧
    Gen.JsonDeSrc.hashes.lookup "fn client_from_slice" = some 6675373267029626547 /- "{letmutde=ClientDeserializer::from_slice(s);letvalue=T::deserialize(&mutde)?;de.end()?;Ok(value)}" -/ ∧
    Gen.JsonDeSrc.hashes.lookup "ClientDeserializer<IoRead<R>>::from_reader" = some 15691795487078593245 /- "{ClientDeserializer(serde_json::Deserializer::from_reader(reader))}" -/ ∧
    Gen.JsonDeSrc.hashes.lookup "ClientDeserializer<SliceRead<'a>>::from_slice" = some 13399570450002846636 /- "{ClientDeserializer(serde_json::Deserializer::from_slice(bytes))}" -/ ∧
    Gen.JsonDeSrc.hashes.lookup "ClientDeserializer<StrRead<'a>>::from_str" = some 8534830568909394689 /- "{ClientDeserializer(serde_json::Deserializer::from_str(s))}" -/ ∧
    Gen.JsonDeSrc.hashes.lookup "ClientDeserializer<R>::end" = some 1737334758775072841 /- "{self.0.end()}" -/ ∧
    Gen.SmileDeClientSrc.hashes.lookup "fn client_from_reader" = some 11588487256068215368 /- "{letmutde=ClientDeserializer::from_reader(reader);letvalue=T::deserialize(&mutde)?;de.end()?;Ok(value)}" -/ ∧
    Gen.SmileDeClientSrc.hashes.lookup "fn client_from_slice" = some 6675373267029626547 /- "{letmutde=ClientDeserializer::from_slice(s);letvalue=T::deserialize(&mutde)?;de.end()?;Ok(value)}" -/ ∧
    Gen.SmileDeClientSrc.hashes.lookup "fn client_from_mut_slice" = some 190039742194988828 /- "{letmutde=ClientDeserializer::from_mut_slice(s);letvalue=T::deserialize(&mutde)?;de.end()?;Ok(value)}" -/ ∧
    Gen.SmileDeClientSrc.hashes.lookup "ClientDeserializer<'_,IoRead<R>>::from_reader" = some 8511477716685037707 /- "{ClientDeserializer(serde_smile::Deserializer::from_reader(reader))}" -/ ∧
    Gen.SmileDeClientSrc.hashes.lookup "ClientDeserializer<'a,SliceRead<'a>>::from_slice" = some 8821054405427350610 /- "{ClientDeserializer(serde_smile::Deserializer::from_slice(bytes))}" -/ ∧
    Gen.SmileDeClientSrc.hashes.lookup "ClientDeserializer<'a,MutSliceRead<'a>>::from_mut_slice" = some 16386632783192885981 /- "{ClientDeserializer(serde_smile::Deserializer::from_mut_slice(bytes))}" -/ ∧
    Gen.SmileDeClientSrc.hashes.lookup "ClientDeserializer<'de,R>::end" = some 1737334758775072841 /- "{self.0.end()}" -/ := by
  simp only [Gen.JsonDeServerSrc.hashes, Gen.SmileDeServerSrc.hashes, Gen.JsonDeSrc.hashes,
    Gen.SmileDeClientSrc.hashes, ↓List.lookup_cons_ite, ↓String.reduceEq, ↓reduceIte, and_self]

/-- `UnknownFieldsBehavior`: `deserialize_struct` is intercepted by a `StructVisitor`, whose map access carries the
    declared fields and a slot for the current key; a request to ignore a value becomes `unknown_field(key)` -/
theorem gen_unknown_fields_behavior :
    Gen.UnknownFieldsSrc.hashes.lookup "Behavior for UnknownFieldsBehavior<B>::deserialize_struct" = some 12582298749013127255 /- "{B::deserialize_struct(de,name,fields,DelegatingVisitor::new(StructVisitor{fields},visitor),)}" -/ ∧
    Gen.UnknownFieldsSrc.hashes.lookup "Visitor2<'de,V> for StructVisitor::visit_map" = some 16346528810062829712 /- "{visitor.visit_map(StructMapAccess{map,fields:self.fields,key:None,})}" -/ ∧
    Gen.UnknownFieldsSrc.hashes.lookup "Deserializer2<'de,D> for ValueDeserializer<'de,'_>::deserialize_ignored_any" = some 9190212375268845044 /- "{letkey=matchself.key{Some(key)=>&**key,None=>\"<unknown>\",};Err(Error::unknown_field(key,self.fields))}" -/ := by
  simp only [Gen.UnknownFieldsSrc.hashes, ↓List.lookup_cons_ite, ↓String.reduceEq, ↓reduceIte, and_self]

/-- the wrapper dispatches `deserialize_struct` through the behaviour `B` and wraps with `B` again below map values,
    sequence elements, `Some`, newtype structs and newtype and tuple variants (rows of the table C01 states whole) -/
theorem gen_de_struct_dispatch :
    Gen.WrapTable.deTable.contains ("Deserializer", "deserialize_struct", ["B"], ["deserialize_struct"]) = true ∧
    Gen.WrapTable.deTable.contains ("MapAccess", "next_value_seed", ["B"], []) = true ∧
    Gen.WrapTable.deTable.contains ("SeqAccess", "next_element_seed", ["B"], []) = true ∧
    Gen.WrapTable.deTable.contains ("Visitor", "visit_some", ["B"], []) = true ∧
    Gen.WrapTable.deTable.contains ("Visitor", "visit_newtype_struct", ["B"], []) = true ∧
    Gen.WrapTable.deTable.contains ("VariantAccess", "newtype_variant_seed", ["B"], []) = true ∧
    Gen.WrapTable.deTable.contains ("VariantAccess", "tuple_variant", ["B"], []) = true := by decide +kernel

/-- **servers reject**: a document the server accepts, given one extra undeclared member at any
    depth (whatever it holds), is rejected with an error naming that member -/
theorem C05_server_rejects (fmt : Fmt) (t : Ty) (d d' : Doc) (k : List Nat) (v : Val)
    (hok : de fmt .server t d = .ok v) (hinj : Inject t d d' k) :
    de fmt .server t d' = .error (.unknownField k) := srv fmt hinj v hok

/-- **clients ignore**: the client reads the document with the extra member exactly as it reads the
    document without it — same value, or same error -/
theorem C05_client_ignores (fmt : Fmt) (t : Ty) (d d' : Doc) (k : List Nat) (hinj : Inject t d d' k) :
    de fmt .client t d' = de fmt .client t d := cli fmt hinj

/-- any number of extra members, injected one after another -/
inductive InjectN : Ty → Doc → Doc → List (List Nat) → Prop
  | zero (t : Ty) (d : Doc) : InjectN t d d []
  | step (t : Ty) (d d1 d2 : Doc) (ks : List (List Nat)) (k : List Nat) :
      InjectN t d d1 ks → Inject t d1 d2 k → InjectN t d d2 (k :: ks)

theorem C05_client_ignores_many (fmt : Fmt) (t : Ty) (d d' : Doc) (ks : List (List Nat))
    (h : InjectN t d d' ks) : de fmt .client t d' = de fmt .client t d := by
  induction h with
  | zero => rfl
  | step d1 d2 ks k _ hi ih => rw [cli fmt hi, ih]

/-- **servers reject, any number of unknown members**: a document the server accepts, given one or more extra
undeclared members anywhere (one after another, at any depths), is rejected with an error naming one of them (the
reader stops at the first it meets) -/
theorem C05_server_rejects_many (fmt : Fmt) (t : Ty) (d d' : Doc) (ks : List (List Nat)) (v : Val)
    (hok : de fmt .server t d = .ok v) (h : InjectN t d d' ks) (hne : ks ≠ []) :
    ∃ k ∈ ks, de fmt .server t d' = .error (.unknownField k) := by
  induction h with
  | zero => exact absurd rfl hne
  | step d1 d2 ks k hn hi ih =>
    cases ks with
    | nil =>
      cases hn
      exact ⟨k, List.mem_cons_self, (srvA fmt hi).of_ok hok⟩
    | cons k0 ks0 =>
      obtain ⟨k', hk', he⟩ := ih (List.cons_ne_nil k0 ks0)
      rcases srvA fmt hi with h | ⟨e, h1, h2⟩
      · exact ⟨k, List.mem_cons_self, h⟩
      · rw [he] at h1; cases h1
        exact ⟨k', List.mem_cons_of_mem _ hk', h2⟩

/-- **and whatever the server made of the document before**: an extra undeclared member never turns a rejection into
an acceptance, nor one error into an unrelated one -/
theorem C05_server_never_accepts_more (fmt : Fmt) (t : Ty) (d d' : Doc) (k : List Nat) (hinj : Inject t d d' k) :
    de fmt .server t d' = .error (.unknownField k) ∨ ∃ e, de fmt .server t d = .error e ∧ de fmt .server t d' = .error e :=
  srvA fmt hinj

/-- the round trip of C01 composed with injection: what a server wrote, plus unknown members, is
    still read by a client as the original value -/
theorem C05_client_reads_original (fmt : Fmt) (t : Ty) (v : Val) (hv : HasTy t v) (d d' : Doc)
    (ks : List (List Nat)) (hs : ser fmt t v = some d) (h : InjectN t d d' ks) :
    de fmt .client t d' = .ok v :=
  (C05_client_ignores_many fmt t d d' ks h).trans (of_eq_some (rt fmt .client hv) d hs)

/-! #### non-vacuity: {"a":[{"b":true}]} with "zz":null injected into the inner object -/
def exTy : Ty := .struct (.cons [97] (.seq (.struct (.cons [98] .bool .nil))) .nil)
def exDoc : Doc := .obj (.cons (.text [97]) (.arr (.cons (.obj (.cons (.text [98]) (.bool true) .nil)) .nil)) .nil)
def exDoc' : Doc :=
  .obj (.cons (.text [97]) (.arr (.cons (.obj (.cons (.text [98]) (.bool true) (.cons (.text [122, 122]) .null .nil))) .nil)) .nil)

example : Inject exTy exDoc exDoc' [122, 122] := by
  refine .structField _ _ _ _ (.here _ [97] 0 _ _ _ _ _ rfl ?_)
  refine .seq _ _ _ _ (.here _ _ _ _ _ ?_)
  exact .here _ _ _ _ .null (by decide) (.there _ _ _ _ _ _ (.here _ _ _))

end ConjureVerif.C05

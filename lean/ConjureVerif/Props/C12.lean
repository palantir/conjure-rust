import ConjureVerif.Lemmas.Plain
import ConjureVerif.Lemmas.Base64Canon
import ConjureVerif.Gen.PlainSrc
import ConjureVerif.Lemmas.Pins
/-
C12 — PLAIN text of every parameter value parses back to the same value.

One round-trip theorem per type.  safelong: `C15_fromStr_complete`; rid / bearer token: `C16`.
-/
namespace ConjureVerif.C12
open ConjureVerif ConjureVerif.Plain

/-! #### the code the model transcribes (conjure-object/src/plain.rs), pinned -/

theorem gen_extract_ok : Gen.PlainSrc.extractOk = true := by decide

theorem gen_f64_bodies :
    Gen.PlainSrc.hashes.lookup "Plain for f64::fmt" = some 12577828438287700767 /- "{if*self==f64::INFINITY{fmt::Display::fmt(\"Infinity\",fmt)}elseif*self==f64::NEG_INFINITY{fmt::Display::fmt(\"-Infinity\",fmt)}else{fmt::Display::fmt(self,fmt)}}" -/ ∧
    Gen.PlainSrc.hashes.lookup "FromPlain for f64::from_plain" = some 9648066476919133558 /- "{matchs{\"Infinity\"=>Ok(f64::INFINITY),\"-Infinity\"=>Ok(f64::NEG_INFINITY),s=>s.parse(),}}" -/ := by
  simp only [Gen.PlainSrc.hashes, ↓List.lookup_cons_ite, ↓String.reduceEq, ↓reduceIte, and_self]

theorem gen_binary_bodies :
    Gen.PlainSrc.hashes.lookup "Plain for [u8]::fmt" = some 9811898537233545600 /- "{fmt::Display::fmt(&Base64Display::new(self,&STANDARD),fmt)}" -/ ∧
    Gen.PlainSrc.hashes.lookup "Plain for Bytes::fmt" = some 9406949748727506864 /- "{Plain::fmt(&**self,fmt)}" -/ ∧
    Gen.PlainSrc.hashes.lookup "FromPlain for Bytes::from_plain" = some 12318675407653291860 /- "{letbuf=STANDARD.decode(s).map_err(ParseBinaryError)?;Ok(Bytes::from(buf))}" -/ := by
  simp only [Gen.PlainSrc.hashes, ↓List.lookup_cons_ite, ↓String.reduceEq, ↓reduceIte, and_self]

theorem gen_datetime_bodies :
    Gen.PlainSrc.hashes.lookup "Plain for DateTime<Utc>::fmt" = some 18077947785315892028 /- "{fmt::Display::fmt(&self.format_with_items(iter::once(Item::Fixed(Fixed::RFC3339))),fmt,)}" -/ ∧
    Gen.PlainSrc.hashes.lookup "FromPlain for DateTime<Utc>::from_plain" = some 5194665675040052682 /- "{DateTime::parse_from_rfc3339(s).map(|t|t.with_timezone(&Utc))}" -/ := by
  simp only [Gen.PlainSrc.hashes, ↓List.lookup_cons_ite, ↓String.reduceEq, ↓reduceIte, and_self]

/-- the types that take `Plain` from `Display` and `FromPlain` from `FromStr` through the two macros, the macros'
    bodies, and `BearerToken`'s own `fmt` -/
theorem gen_display_fromstr_lists :
    (Gen.PlainSrc.bodies.filter (·.1 == "as_display!")).map (·.2) =
      ["bool", "i32", "ResourceIdentifier", "SafeLong", "str", "String", "Uuid"] ∧
    (Gen.PlainSrc.bodies.filter (·.1 == "as_from_str!")).map (·.2) =
      ["BearerToken", "bool", "i32", "ResourceIdentifier", "SafeLong", "String", "Uuid"] ∧
    Gen.PlainSrc.hashes.lookup "Plain for BearerToken::fmt" = some 7080061650749002806 /- "{fmt::Display::fmt(self.as_str(),fmt)}" -/ ∧
    Gen.PlainSrc.hashes.lookup "macro_rules as_display" = some 16799373132477248045 /- "($t:ty)=>{implPlainfor$t{fnfmt(&self,fmt:&mutfmt::Formatter<'_>)->fmt::Result{fmt::Display::fmt(self,fmt)}}};" -/ ∧
    Gen.PlainSrc.hashes.lookup "macro_rules as_from_str" = some 7064333651520730159 /- "($t:ty)=>{implFromPlainfor$t{typeErr=<$tasFromStr>::Err;#[inline]fnfrom_plain(s:&str)->Result<Self,Self::Err>{s.parse()}}};" -/ := by
  simp only [Gen.PlainSrc.bodies, Gen.PlainSrc.hashes, List.filter_cons_append, List.filter_nil, beq_iff_eq,
    ↓List.lookup_cons_ite, ↓String.reduceEq, ↓reduceIte, and_true]
  exact ⟨rfl, rfl⟩

theorem C12_roundtrip_bool (b : Bool) : boolParse (boolText b) = some b := by
  cases b <;> decide

/-- lower-case `true` / `false` -/
theorem C12_bool_spelling : boolText true = [116, 114, 117, 101] ∧ boolText false = [102, 97, 108, 115, 101] := by
  decide

theorem C12_roundtrip_i32 (v : Int) (h : I32 v) : i32Parse (i32Text v) = some v := by
  simp [i32Parse, i32Text, Dec.parseRust_showInt, h]

/-- what is assumed of Rust's own `Display`/`FromStr` for `f64` (not code of this repository):
    finite values and NaN print to a text that parses back to them, and that text is never one of
    Conjure's two infinity spellings -/
structure LawfulFloat (E : FloatExt) : Prop where
  fin_roundtrip : ∀ k nz, E.parse (E.display (.fin k nz)) = some (.fin k nz)
  nan_roundtrip : E.parse (E.display .nan) = some .nan
  fin_not_special : ∀ k nz, E.display (.fin k nz) ≠ infinityText ∧ E.display (.fin k nz) ≠ negInfinityText
  nan_not_special : E.display .nan ≠ infinityText ∧ E.display .nan ≠ negInfinityText

/-- doubles, NaN and the infinities included (equality modulo NaN payload — `Dbl` has one NaN) -/
theorem C12_roundtrip_double (E : FloatExt) (hE : LawfulFloat E) (d : Dbl) : dblParse E (dblText E d) = some d := by
  have hne : negInfinityText ≠ infinityText := by decide
  cases d with
  | posInf => simp [dblText, dblParse]
  | negInf => simp [dblText, dblParse, hne]
  | nan => simp [dblText, dblParse, hE.nan_not_special, hE.nan_roundtrip]
  | fin k nz => simp [dblText, dblParse, hE.fin_not_special, hE.fin_roundtrip]

/-- `Infinity` / `-Infinity` (NaN is Rust's own `NaN`, sampled) -/
theorem C12_double_spellings (E : FloatExt) :
    dblText E .posInf = [73, 110, 102, 105, 110, 105, 116, 121] ∧
    dblText E .negInf = [45, 73, 110, 102, 105, 110, 105, 116, 121] :=
  ⟨rfl, rfl⟩

def Bytes (bs : List Nat) : Prop := ∀ b ∈ bs, b < 256

/-- binary: padded standard Base64 decodes back to the same bytes -/
theorem C12_roundtrip_binary (bs : List Nat) (h : Bytes bs) : binParse (binText bs) = some bs :=
  Base64.decode_encode bs h

/-- binary, the other direction: the parser accepts only the text `binText` writes — whatever it accepts is
    the canonical spelling of the bytes it returns (canonical padding, zero trailing bits), and those are bytes -/
theorem C12_binary_parse_is_canonical (s bs : List Nat) (h : binParse s = some bs) :
    binText bs = s ∧ Bytes bs :=
  Base64.encode_decode s bs h

/-- the text of a binary: four characters per started group of three bytes, each printable ASCII in `+`..`z`
    other than `\\` (so neither a JSON string nor a header value has to escape it) -/
theorem C12_binary_text_shape (bs : List Nat) :
    (binText bs).length = 4 * ((bs.length + 2) / 3) ∧ ∀ c ∈ binText bs, Base64.PlainChar c :=
  Base64.encode_shape bs

/-- no two texts parse to the same binary value -/
theorem C12_binary_parse_injective (s t bs : List Nat) (hs : binParse s = some bs) (ht : binParse t = some bs) :
    s = t :=
  Base64.decode_injective s t bs hs ht

/-- the premises are met by a non-trivial text, and a text with non-zero trailing bits is refused -/
example : binParse [65, 81, 73, 61] = some [1, 2] ∧ binParse [65, 81, 74, 61] = none := by decide

/-- uuid: the hyphenated lower-case text parses back to the same 16 bytes -/
theorem C12_roundtrip_uuid (u : List Nat) (hl : u.length = 16) (hb : Bytes u) :
    uuidParse (uuidText u) = some u :=
  uuidParse_uuidText u hl hb

/-- datetime with a four-digit year: the RFC 3339 text chrono writes for valid civil fields parses
    back to the same fields (the instant <-> civil conversion is chrono's and is sampled) -/
theorem C12_datetime_text_roundtrip (c : Civil) (hv : c.Valid) : dtParse (dtText c) = some c := by
  obtain ⟨hy, hm1, hm2, hd1, hd2, hh, hmi, hs, hn⟩ := hv
  have hdi := daysIn_le c.year c.month
  -- The parser walks the text field by field.  Every zero-padded field reads back by `readN_padN`, whose side
  -- condition `v < 10 ^ n` `omega` takes from the field's range in `hv` (for the day through `hdi`); the separators
  -- are literal; the fraction, followed by the `+` (43) of `+00:00`, is `readFrac_fracText`.  What remains is the
  -- parser's final check of the offset and of the fields it has read.
  simp (disch := omega) only [dtParse, dtText, List.append_assoc, List.cons_append, readN_padN, expect, if_true,
    Option.bind_some, readFrac_fracText c.nano hn 43 _ (by decide) (by decide)]
  rw [if_pos ⟨by decide, hy, hm1, hm2, hd1, hd2, hh, hmi, hs, hn⟩]

example : ({ year := 2024, month := 2, day := 29, hour := 23, minute := 59, second := 59, nano := 120000000 } : Civil).Valid := by
  decide
example : dtParse [50, 48, 50, 52, 45, 48, 50, 45, 50, 57, 84, 50, 51, 58, 53, 57, 58, 53, 57, 46, 49, 50, 90] =
    some { year := 2024, month := 2, day := 29, hour := 23, minute := 59, second := 59, nano := 120000000 } := by
  decide +kernel
example : I32 (-2147483648) ∧ ¬ I32 2147483648 := by decide

/-! #### consequence: no two values share a PLAIN text

A text that parses back to its value cannot be the text of a second value, so a path segment, query value or
header written from one value is never read as another (doubles: modulo the NaN payload, as above). -/

theorem inj_of_roundtrip {α β : Type} (f : α → β) (g : β → Option α) (P : α → Prop)
    (h : ∀ a, P a → g (f a) = some a) (a b : α) (ha : P a) (hb : P b) (e : f a = f b) : a = b := by
  have h1 := h a ha
  rw [e, h b hb] at h1
  exact (Option.some.inj h1).symm

theorem C12_text_injective (E : FloatExt) (hE : LawfulFloat E) :
    (∀ v w : Int, I32 v → I32 w → i32Text v = i32Text w → v = w) ∧
    (∀ d d' : Dbl, dblText E d = dblText E d' → d = d') ∧
    (∀ a b : List Nat, Bytes a → Bytes b → binText a = binText b → a = b) ∧
    (∀ u u' : List Nat, u.length = 16 ∧ Bytes u → u'.length = 16 ∧ Bytes u' → uuidText u = uuidText u' → u = u') ∧
    (∀ c c' : Civil, c.Valid → c'.Valid → dtText c = dtText c' → c = c') :=
  ⟨inj_of_roundtrip i32Text i32Parse I32 C12_roundtrip_i32,
   fun d d' => inj_of_roundtrip (dblText E) (dblParse E) (fun _ => True)
     (fun d _ => C12_roundtrip_double E hE d) d d' trivial trivial,
   inj_of_roundtrip binText binParse Bytes C12_roundtrip_binary,
   inj_of_roundtrip uuidText uuidParse (fun u => u.length = 16 ∧ Bytes u)
     (fun u h => C12_roundtrip_uuid u h.1 h.2),
   inj_of_roundtrip dtText dtParse Civil.Valid C12_datetime_text_roundtrip⟩

end ConjureVerif.C12

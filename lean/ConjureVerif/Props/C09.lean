import ConjureVerif.Props.C19
import ConjureVerif.Gen.ErrorSites
import ConjureVerif.Gen.BearerTokenSrc
import ConjureVerif.Lemmas.Pins
/-
C09 — Data of arguments not declared safe never reaches any safe-to-log channel.

The endpoint model labels data by origin (`Label.const` for text fixed in the program, `Label.arg i` for anything
computed from the request data of argument `i`).  The safe-to-log channels of an outcome are: the response's
`SafeParams`, the error's safe parameters (`param`: a declared name; `actual`: a count of values, labelled `const`
by stated choice), and the cause message when the error flags it safe.
-/
namespace ConjureVerif.C09
open ConjureVerif ConjureVerif.Endpoint

/-- in the files of conjure-http the table is extracted from, every `*_safe` constructor is given a string literal as
its cause, except at these sites.  In `parse_auth_inner` and `request_body_encoding` the cause is an error value of a
type with a constant `Display` (`http::header::ToStrError`, `conjure_object::bearer_token::ParseError`,
`mediatype::MediaTypeError`) — the model labels them `const`, and the harness looks for request data in every cause
flagged safe.  `Vec::write_body` hands on the `io::Error` of the response writer: not constant text, but on the
response side, which the model leaves out -/
theorem gen_safe_sites_literal : Gen.ErrorSites.extractOk = true ∧
    ((Gen.ErrorSites.sites.filter (fun s => s.2.2.1.endsWith "_safe" && !s.2.2.2.2)).map
      (fun s => (s.1, s.2.1, s.2.2.1, s.2.2.2.1))) =
    [("private/server.rs", "parse_auth_inner", "service_safe", "e"), ("private/server.rs", "parse_auth_inner", "service_safe", "e"), ("server/mod.rs", "Vec::write_body", "internal_safe", "<fn-value>"), ("server/runtime.rs", "ConjureRuntime::request_body_encoding", "service_safe", "e"), ("server/runtime.rs", "ConjureRuntime::request_body_encoding", "service_safe", "e")] := by
  refine ⟨rfl, ?_⟩
  simp (disch := rfl) only [Gen.ErrorSites.sites, List.filter_cons_append, List.filter_nil,
    String.endsWith_eq_isSuffixOf, String.toList_of_eq]
  rfl

/-- the decode sites that receive request data use the unsafe constructor `service`; the cardinality, auth and size
checks (`only_item`, `optional_item`, `parse_auth_inner`, `check_limit`) use `service_safe` -/
theorem gen_value_sites_unsafe :
    ((Gen.ErrorSites.sites.filter (fun s => (s.2.1.endsWith "Decoder::decode" || s.2.1 == "StdRequestDeserializer::deserialize"))).all
      (fun s => s.2.2.1 == "service")) = true ∧
    ((Gen.ErrorSites.sites.filter (fun s => s.2.1 == "only_item" || s.2.1 == "optional_item" || s.2.1 == "parse_auth_inner" || s.2.1 == "check_limit")).all
      (fun s => s.2.2.1 == "service_safe")) = true := by
  simp (disch := rfl) only [Gen.ErrorSites.sites, List.filter_cons_append, List.filter_nil,
    String.endsWith_eq_isSuffixOf, String.toList_of_eq, Bool.beq_eq_decide_eq, ↓String.reduceEq, decide_false, decide_true]
  decide +kernel

/-- `Debug for BearerToken` prints a constant -/
theorem gen_token_debug_redacted :
    Gen.BearerTokenSrc.bodies.lookup "fmt::Debug for BearerToken::fmt" =
      some "{fmt.debug_tuple(\"BearerToken\").field(&\"REDACTED\").finish()}" := by
  simp only [Gen.BearerTokenSrc.bodies, ↓List.lookup_cons_ite, ↓String.reduceEq, ↓reduceIte]

/-- the labels of everything an outcome exposes on a safe-to-log channel -/
def safeChannel (o : Outcome) : List Label :=
  o.logged.map (fun kj => Label.arg kj.2) ++
  match o.error with
  | none => []
  | some e => (if e.causeSafe then [e.cause] else []) ++ [Label.const, Label.const]   -- `param`, `actual`

/-- a cause flagged safe is constant text; a cause computed from a value is flagged unsafe -/
theorem C09_safe_cause_is_constant (args : List ArgSpec) (r : Request) (e : Err)
    (h : (handleReq args r).error = some e) : (e.causeSafe = true → e.cause = .const) ∧
    (∀ i, e.cause = .arg i → e.causeSafe = false) := by
  obtain ⟨k, a, -, hd, -⟩ := C19.C19_error_is_first_failure args r e h
  have := (decodeArg_err hd).2.2
  refine ⟨this, fun i hi => ?_⟩
  cases hc : e.causeSafe with
  | false => rfl
  | true => rw [this hc] at hi; cases hi

/-- only arguments declared safe are recorded, each under its declared (`log_as`) name -/
theorem C09_only_safe_recorded (args : List ArgSpec) (r : Request) (k : Bytes) (j : Nat)
    (h : (k, j) ∈ (handleReq args r).logged) : ∃ a, args[j]? = some a ∧ a.safe = true ∧ k = a.logName := by
  have : (k, j) ∈ safeLog 0 args := by
    rcases run_eq r [] args 0 with ⟨-, ho⟩ | ⟨pre, a, post, e, rfl, -, -, ho⟩ <;>
      rw [handleReq, ho, List.nil_append] at h
    · exact h
    · rw [safeLog_append]; exact List.mem_append_left _ h
  obtain ⟨a, ha, hs, rfl⟩ := mem_safeLog.mp this
  exact ⟨a, ha, hs, C19.safeKey_logName a⟩

/-- **Non-interference.**  For every endpoint and every request, whether decoding succeeds or fails, each piece of
data on a safe-to-log channel is constant text or comes from an argument declared safe (in conjure-macros auth
tokens and context cannot be declared safe, `ArgType::safe`; the model's `ArgSpec.safe` is free for every kind). -/
theorem C09_noninterference (args : List ArgSpec) (r : Request) (l : Label)
    (h : l ∈ safeChannel (handleReq args r)) :
    l = .const ∨ ∃ i a, l = .arg i ∧ args[i]? = some a ∧ a.safe = true := by
  unfold safeChannel at h
  rcases List.mem_append.mp h with h | h
  · obtain ⟨⟨k, j⟩, hkj, rfl⟩ := List.mem_map.mp h
    obtain ⟨a, ha, hs, -⟩ := C09_only_safe_recorded args r k j hkj
    exact .inr ⟨j, a, rfl, ha, hs⟩
  · cases he : (handleReq args r).error with
    | none => simp [he] at h
    | some e =>
      have := (C09_safe_cause_is_constant args r e he).1
      by_cases hc : e.causeSafe = true <;> simp [he, hc, this] at h <;> exact .inl h

/-- every argument declared safe that decoded before the outcome is recorded under its declared name —
also when a later argument fails -/
theorem C09_safe_recorded (r : Request) (pre : List ArgSpec) (a : ArgSpec) (post : List ArgSpec)
    (hpre : ∀ k b, pre[k]? = some b → decodeArg r k b = .ok ())
    (ha : decodeArg r pre.length a = .ok ()) (hs : a.safe = true) :
    (a.logName, pre.length) ∈ (handleReq (pre ++ a :: post) r).logged := by
  rw [handleReq, run_append r pre 0 _ _ (decodes_zero.mpr hpre), run, Nat.zero_add, ha]
  exact run_keeps _ _ _ _ _ (by simp [hs, C19.safeKey_logName])

/-! #### non-vacuity: an unsafe header value fails after a safe query value decoded -/
def exArgs : List ArgSpec := [
  { kind := .query, dec := .one, ty := .str, name := [113], logName := [113, 78], ident := [113, 95, 110], safe := true },
  { kind := .header, dec := .one, ty := .int, name := [104], logName := [104, 78], ident := [104, 95, 110], safe := false }]
def exReq : Request :=
  { pathParams := [], query := some [113, 61, 97], headers := [([104], [122])], ct := .absent, payload := .ok, dbl := [] }

example : (handleReq exArgs exReq).logged = [([113, 78], 0)] := by decide +kernel
example : (handleReq exArgs exReq).error.map (fun e => (e.causeSafe, e.cause, e.param)) =
    some (false, .arg 1, some [104, 78]) := by decide +kernel
example : safeChannel (handleReq exArgs exReq) = [.arg 0, .const, .const] := by decide +kernel

end ConjureVerif.C09

import ConjureVerif.Lemmas.LogSafety
import ConjureVerif.Gen.CodegenContextSrc
import ConjureVerif.Lemmas.Pins
/-
C08 — An argument is generated safe-to-log exactly when all it can hold is safe.

`SpecSafe` (Lemmas/LogSafety) is the declarative rule: a named type is safe iff every definition
reachable from it through *undeclared* references is, by itself, safe — i.e. every declared
annotation on the way is `safe`, no primitive / `any` / bearer token / external type is left undeclared,
and no union is reached.  It mentions neither evaluation order nor a cache.
-/
namespace ConjureVerif.C08
open ConjureVerif ConjureVerif.LogSafety

/-- a type expression is safe: its non-reference content is, and every named type it mentions is -/
def SpecSafeTy (defs : List Def) (ty : Ty) : Prop :=
  (tyParts ty).1 = true ∧ ∀ c ∈ (tyParts ty).2, SpecSafe defs c

/-- the rule for an argument: an explicit declaration wins (both ways); then the legacy marker or
    tag; otherwise the type decides -/
def ArgSpec (defs : List Def) (a : Arg) : Prop :=
  match a.safety with
  | some b => b = true
  | none => a.legacySafe = true ∨ SpecSafeTy defs a.ty

def ArgInRange (defs : List Def) (a : Arg) : Prop := ∀ c ∈ (tyParts a.ty).2, c < defs.length

/-- the generator's log-safety code this model transcribes (conjure-codegen/src/context.rs): an explicit `safety`
wins, then the legacy tag `safe` or the marker `com.palantir.logsafe.Safe` (that package *and* that name), then the
type; references are answered through the per-type cache with the provisional value for types in progress, and only
outermost results are kept -/
theorem gen_log_safety_sources :
    Gen.CodegenContextSrc.hashes.lookup "Context::is_safe_arg" = some 15728673171295917919 /- "{ifletSome(log_safety)=arg.safety(){return*log_safety==LogSafety::Safe;}ifself.is_legacy_safe_arg(arg){returntrue;}self.type_log_safety(arg.type_())==Some(LogSafety::Safe)}" -/ ∧
    Gen.CodegenContextSrc.hashes.lookup "Context::is_legacy_safe_arg" = some 15400573452224657344 /- "{arg.tags().iter().any(|s|s==\"safe\")||arg.markers().iter().any(|a|self.is_legacy_safe_marker(a))}" -/ ∧
    Gen.CodegenContextSrc.hashes.lookup "Context::is_legacy_safe_marker" = some 6288601637347088960 /- "{matchty{Type::External(def)=>{letname=def.external_reference();name.package()==\"com.palantir.logsafe\"&&name.name()==\"Safe\"}_=>false,}}" -/ ∧
    Gen.CodegenContextSrc.hashes.lookup "Context::type_log_safety" = some 2249949754606802379 /- "{matchty{Type::Primitive(primitive)=>self.primitive_log_safety(primitive),Type::Optional(optional)=>self.type_log_safety(optional.item_type()),Type::List(list)=>self.type_log_safety(list.item_type()),Type::Set(set)=>self.type_log_safety(set.item_type()),Type::Map(map)=>self.combine_safety(self.type_log_safety(map.key_type()),self.type_log_safety(map.value_type()),),Type::Reference(def)=>self.type_log_safety_ref(def),Type::External(_)=>None,}}" -/ ∧
    Gen.CodegenContextSrc.hashes.lookup "Context::primitive_log_safety" = some 16586713137089024308 /- "{matchprimitive{PrimitiveType::Bearertoken=>Some(LogSafety::DoNotLog),_=>None,}}" -/ ∧
    Gen.CodegenContextSrc.hashes.lookup "Context::type_log_safety_ref" = some 2408916342373956172 /- "{letctx=&self.types[name];match&*ctx.log_safety.borrow(){CachedLogSafety::Computed(safety)=>returnsafety.clone(),CachedLogSafety::InProgress=>returnSome(LogSafety::Safe),CachedLogSafety::Uncomputed=>{}}*ctx.log_safety.borrow_mut()=CachedLogSafety::InProgress;letdepth=self.log_safety_depth.get();self.log_safety_depth.set(depth+1);letsafety=match&ctx.def{TypeDefinition::Alias(alias)=>alias.safety().cloned().or_else(||self.type_log_safety(alias.alias())),TypeDefinition::Enum(_)=>Some(LogSafety::Safe),TypeDefinition::Object(object)=>object.fields().iter().map(|f|{f.safety().cloned().or_else(||self.type_log_safety(f.type_()))}).try_fold(LogSafety::Safe,|a,b|self.combine_safety(Some(a),b)),TypeDefinition::Union(union_)=>union_.union_().iter().map(|f|{f.safety().cloned().or_else(||self.type_log_safety(f.type_()))}).fold(None,|a,b|self.combine_safety(a,b)),};self.log_safety_depth.set(depth);*ctx.log_safety.borrow_mut()=ifdepth==0{CachedLogSafety::Computed(safety.clone())}else{CachedLogSafety::Uncomputed};safety}" -/ ∧
    Gen.CodegenContextSrc.hashes.lookup "Context::combine_safety" = some 15411564170362202506 /- "{match(a,b){(Some(LogSafety::DoNotLog),_)|(_,Some(LogSafety::DoNotLog))=>{Some(LogSafety::DoNotLog)}(Some(LogSafety::Unsafe),_)|(_,Some(LogSafety::Unsafe))=>Some(LogSafety::Unsafe),(Some(LogSafety::Safe),Some(LogSafety::Safe))=>Some(LogSafety::Safe),(Some(LogSafety::Safe),None)|(None,Some(LogSafety::Safe))|(None,None)=>None,}}" -/ := by
  simp only [Gen.CodegenContextSrc.hashes, ↓List.lookup_cons_ite, ↓String.reduceEq, ↓reduceIte, and_self]

/-- the rules for the building blocks other than `map`, alias and object -/
theorem C08_rules :
    tyParts .prim = (false, []) ∧ tyParts .ext = (false, []) ∧
    (∀ t, tyParts (.opt t) = tyParts t) ∧ (∀ t, tyParts (.list t) = tyParts t) ∧
    (∀ t, tyParts (.set t) = tyParts t) ∧
    nodeOf .enum = (true, []) ∧ (∀ vs, (nodeOf (.union vs)).1 = false) ∧
    (∀ t, memberParts (some true, t) = (true, [])) ∧ (∀ t, memberParts (some false, t) = (false, [])) := by
  refine ⟨rfl, rfl, fun _ => rfl, fun _ => rfl, fun _ => rfl, rfl, fun _ => rfl, fun _ => rfl, fun _ => rfl⟩

/-- **one argument**: whatever correct cache the generator has accumulated, `is_safe_arg` answers by
    the rule and leaves a correct cache -/
theorem C08_arg_iff (defs : List Def) (hv : Valid defs) (memo : Memo) (hm : MemoOK defs memo)
    (a : Arg) (hr : ArgInRange defs a) :
    MemoOK defs (isSafeArg defs memo a).1 ∧ ((isSafeArg defs memo a).2 = true ↔ ArgSpec defs a) := by
  unfold isSafeArg ArgSpec
  cases hs : a.safety with
  | some b => exact ⟨hm, Iff.rfl⟩
  | none =>
    simp only
    cases hl : a.legacySafe with
    | true => simp [hm]
    | false =>
      simp only [Bool.false_eq_true, if_false, false_or]
      have := queryRefs_spec defs (tyParts a.ty).2 memo hm
      unfold queryTy SpecSafeTy
      simp only
      refine ⟨this.1, ?_⟩
      simp only [Bool.and_eq_true, this.2]

/-- the flags produced for a list of arguments match the rule, one by one -/
inductive AllSpec (defs : List Def) : List Bool → List Arg → Prop
  | nil : AllSpec defs [] []
  | cons (b a bs as) : (b = true ↔ ArgSpec defs a) → AllSpec defs bs as → AllSpec defs (b :: bs) (a :: as)

/-- **any history**: for every sequence of arguments met in any order, starting from any correct
    cache, each flag is the rule's answer — the memoised recursion never returns a stale or
    provisional value -/
theorem C08_any_history (defs : List Def) (hv : Valid defs) :
    ∀ (args : List Arg) (memo : Memo), MemoOK defs memo → (∀ a ∈ args, ArgInRange defs a) →
      AllSpec defs (runArgs defs memo args) args := by
  intro args
  induction args with
  | nil => intro _ _ _; exact .nil
  | cons a as ih =>
    intro memo hm hr
    have h1 := C08_arg_iff defs hv memo hm a (hr a List.mem_cons_self)
    simp only [runArgs]
    exact .cons _ _ _ _ h1.2 (ih _ h1.1 (fun x hx => hr x (List.mem_cons_of_mem _ hx)))

/-- **order independence**: the flag of an argument does not depend on what was evaluated before it -/
theorem C08_order_independent (defs : List Def) (hv : Valid defs) (m1 m2 : Memo)
    (h1 : MemoOK defs m1) (h2 : MemoOK defs m2) (a : Arg) (hr : ArgInRange defs a) :
    (isSafeArg defs m1 a).2 = (isSafeArg defs m2 a).2 :=
  Bool.eq_iff_iff.mpr ((C08_arg_iff defs hv m1 h1 a hr).2.trans (C08_arg_iff defs hv m2 h2 a hr).2.symm)

theorem memoOK_nil (defs : List Def) : MemoOK defs [] := List.forall_mem_nil _

/-- **recursive types**: what a safe type reaches is safe (so on a cycle all are safe or none is) -/
theorem C08_recursive (defs : List Def) (t u : Nat) (h : SpecSafe defs t) (hr : Reach defs t u) :
    SpecSafe defs u := fun w hw => h w (hr.trans hw)

/-! #### the 2-cycle of the recorded defect: A{b: optional<B>, x: string}, B{a: optional<A>, y: safe string}.
Neither is safe (A holds an undeclared string, and B reaches A), in either query order. -/
def cycleDefs : List Def :=
  [.object [(none, .opt (.ref 1)), (none, .prim)], .object [(none, .opt (.ref 0)), (some true, .prim)]]

example : Valid cycleDefs := by
  intro t c hc
  match t with
  | 0 | 1 => revert c; decide
  | n + 2 => nomatch hc

example : runArgs cycleDefs [] [⟨none, false, .ref 0⟩, ⟨none, false, .ref 1⟩] = [false, false] ∧
    runArgs cycleDefs [] [⟨none, false, .ref 1⟩, ⟨none, false, .ref 0⟩] = [false, false] := by decide

/-- an all-safe self-recursive type stays safe -/
example : runArgs [.object [(none, .opt (.ref 0)), (some true, .prim)]] [] [⟨none, false, .list (.ref 0)⟩] = [true] := by
  decide

end ConjureVerif.C08

import ConjureVerif.Lemmas.GenOrder
import ConjureVerif.Gen.HashMapUses
import ConjureVerif.Gen.CliMainSrc
/-
C20 — Code generation is deterministic: same definition and options, same bytes.

What a proof can carry: (1) the generator's output does not depend on the enumeration order of its hash maps,
because — extracted from the source on every run — every use of a `HashMap`-typed binding in conjure-codegen is a
key lookup (`[]`, `get`, `contains_key`, `insert`, `collect` into it), never an iteration; (2) the CLI maps its flags
one-to-one onto the library's `Config` setters; (3) every file is written beneath the output directory.
What it cannot exhibit: the per-process hash seed and the file system — separate processes are *run* and their trees
compared by the harness (support, not proof).
-/
namespace ConjureVerif.C20
open ConjureVerif ConjureVerif.GenOrder

/-- the hash-map-typed bindings of conjure-codegen (outside the generated `types` module) -/
theorem gen_hash_maps : Gen.HashMapUses.extractOk = true ∧
    Gen.HashMapUses.maps = [("clients.rs", "path_params"), ("context.rs", "types")] := ⟨rfl, rfl⟩

/-- every use of one of them is a lookup by key or builds the map (`new`, `insert`, `collect`): no `iter`, `keys`,
`values`, `into_iter`, `drain`, `retain`, `for … in`, and none is passed on to other code -/
theorem gen_only_lookups :
    Gen.HashMapUses.uses.all (fun u => ["index", "get", "contains_key", "insert", "new", "collect"].contains u.2.2.2) = true := by
  decide +kernel

/-- the command-line tool configures the library through exactly these calls, flag by flag -/
theorem gen_cli_maps_flags_to_config :
    Gen.HashMapUses.cliCalls = [("exhaustive", "args.exhaustive"), ("serialize_empty_collections", "args.serialize_empty_collections"),
      ("strip_prefix", "prefix"), ("build_crate", "&product_name,crate_version"), ("version", "product_version"),
      ("generate_files", "&args.input_json,&args.output_directory")] := rfl

/-- the whole of `main` (flag parsing to `generate_files`), from which the calls above are extracted, is the text
with this hash -/
theorem gen_cli_main_source : Gen.CliMainSrc.hashes.lookup "fn main" = some 1019855791012054534 := by decide +kernel

/-! #### hash-map order does not matter to lookups -/

/-- **two enumerations of the same hash map answer every lookup alike** -/
theorem lookup_perm_invariant {κ ν : Type} [BEq κ] [LawfulBEq κ] (l l' : List (κ × ν)) (hp : l.Perm l')
    (hn : (l.map (·.1)).Nodup) (k : κ) : Table.get l k = Table.get l' k :=
  congrFun (Table.get_perm hp hn) k

/-- **order freedom**: whatever the emitters do with the table, as long as they only look keys up, the whole
generated tree (paths and contents, in writing order) is the same for any two enumerations of the hash map -/
theorem C20_model_order_free {κ ν : Type} [BEq κ] [LawfulBEq κ] (t t' : Table κ ν) (hp : t.Perm t')
    (hn : (t.map (·.1)).Nodup) (items : List Item) (emit : (κ → Option ν) → Item → String) :
    generate t items emit = generate t' items emit := by
  unfold generate; rw [Table.get_perm hp hn]

/-! #### files are created only beneath the output directory -/

/-- **files only beneath the output directory**: when module-path components are safe (non-empty, no separator, not
`.`/`..`) and module names hold no separator (hypotheses; no lemma ties them to `module_path`/`module_name`) every path
the generator writes, taken relative to the output directory, has at least one component and only safe ones, so no
path leaves the directory (the reason, not part of the statement: a component is a module-path component,
`<module name>.rs` — the name followed by underscores when a sub-package goes by it — or `mod.rs`, which is
`Trie.render_comps` in Lemmas/GenOrder.lean) -/
theorem C20_paths_beneath {κ ν : Type} [BEq κ] (table : Table κ ν) (items : List Item)
    (emit : (κ → Option ν) → Item → String)
    (hsafe : ∀ it ∈ items, (∀ c ∈ it.modulePath, safeComponent c = true) ∧ it.name.toList.any badChar = false)
    (p : List String × String) (hp : p ∈ generate table items emit) :
    p.1 ≠ [] ∧ ∀ c ∈ p.1, safeComponent c = true := by
  obtain ⟨comps, h1, h2, h3⟩ := render_safe Item.modulePath (fun it => (it.name, emit table.get it)) items hsafe [] p hp
  rw [h1]
  exact ⟨h2, h3⟩

/-- **crate mode**: the generated crate is the manifest and `rustfmt.toml` in the output directory and everything
else beneath `src`, and no path leaves the output directory -/
theorem C20_crate_paths_beneath {κ ν : Type} [BEq κ] (table : Table κ ν) (items : List Item)
    (emit : (κ → Option ν) → Item → String) (manifest : String)
    (hsafe : ∀ it ∈ items, (∀ c ∈ it.modulePath, safeComponent c = true) ∧ it.name.toList.any badChar = false)
    (p : List String × String) (hp : p ∈ generateCrate table items emit manifest) :
    (p.1 = ["Cargo.toml"] ∨ p.1 = ["rustfmt.toml"] ∨ ∃ rest, p.1 = "src" :: rest ∧ rest ≠ []) ∧
    ∀ c ∈ p.1, safeComponent c = true := by
  unfold generateCrate at hp
  simp only [List.cons_append, List.nil_append, List.mem_cons] at hp
  rcases hp with rfl | rfl | hp
  · exact ⟨.inl rfl, List.forall_mem_singleton.mpr (by decide +kernel)⟩
  · exact ⟨.inr (.inl rfl), List.forall_mem_singleton.mpr (by decide +kernel)⟩
  · rcases renderRoot_mem true _ ["src"] p hp with h | h
    · obtain ⟨comps, h1, h2, h3⟩ :=
        render_safe Item.modulePath (fun it => (it.name, emit table.get it)) items hsafe ["src"] p h
      rw [h1]
      exact ⟨.inr (.inr ⟨comps, rfl, h2⟩), List.forall_mem_cons.mpr ⟨by decide +kernel, h3⟩⟩
    · rw [h]
      exact ⟨.inr (.inr ⟨["lib.rs"], rfl, List.cons_ne_nil _ _⟩), by decide +kernel⟩

/-- the table's enumeration does not matter in crate mode either -/
theorem C20_crate_order_free {κ ν : Type} [BEq κ] [LawfulBEq κ] (t t' : Table κ ν) (hp : t.Perm t')
    (hn : (t.map (·.1)).Nodup) (items : List Item) (emit : (κ → Option ν) → Item → String) (manifest : String) :
    generateCrate t items emit manifest = generateCrate t' items emit manifest := by
  unfold generateCrate; rw [Table.get_perm hp hn]

/-! #### non-vacuity: two enumerations of one table, with distinct keys -/
example : ([(1, "a"), (2, "b")] : List (Nat × String)).Perm [(2, "b"), (1, "a")] ∧
    (([(1, "a"), (2, "b")] : List (Nat × String)).map (·.1)).Nodup := by
  refine ⟨List.Perm.swap _ _ _, by decide⟩
example : Table.get ([(1, "a"), (2, "b")] : List (Nat × String)) 2 = Table.get [(2, "b"), (1, "a")] 2 := by decide
example : safeComponent "verif_service.rs" = true ∧ safeComponent ".." = false ∧ safeComponent "a/b" = false := by
  decide +kernel

end ConjureVerif.C20

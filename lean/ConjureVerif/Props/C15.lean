import ConjureVerif.Model.SafeLong
import ConjureVerif.Lemmas.Dec
/-
C15 — No path ever produces a safelong outside the 53-bit safe range.

`Safe` is the specification's range, written independently of the code; everything about the code enters
through `Gen.SafeLong` (re-extracted on every run).  The helpers that speak of `Safe` stand here with it:
`checked_iff` is the one fact all checked routes share.
-/
namespace ConjureVerif.C15
open ConjureVerif ConjureVerif.SafeLong

/-- the specification: `[-(2^53-1), 2^53-1]` -/
def Safe (v : Int) : Prop := -9007199254740991 ≤ v ∧ v ≤ 9007199254740991

/-- the numerals in `Safe` are `±(2^53 - 1)` -/
theorem safe_bound_is_two_pow_53_minus_one : (2 : Int) ^ 53 - 1 = 9007199254740991 := by decide

theorem gen_extract_ok : Gen.SafeLong.extractOk = true := by decide

-- `newCond` is the condition in `SafeLong::new`, translated connective by connective (`&&`, `||`, `!`, the six
-- comparisons) on every run: full `simp` brings any such spelling of the range check to linear arithmetic and `omega`
-- takes what is left (nothing, for `value ≥ min && value ≤ max`), so the proof does not hang on how the source writes it
theorem gen_newCond_iff (v : Int) : Gen.SafeLong.newCond v = true ↔ Safe v := by
  unfold Gen.SafeLong.newCond Gen.SafeLong.minValue Gen.SafeLong.maxValue Safe
  simp
  try omega

theorem gen_from_widths_small : ∀ w ∈ Gen.SafeLong.fromWidths, w.2 ≤ 32 := by decide

/-- the raw constructor is applied only in the bounds, behind the check in `new`, and in `impl_from!` -/
theorem gen_raw_sites : Gen.SafeLong.rawConstructionSites =
    ["<SafeLong>.min_value", "<SafeLong>.max_value", "<SafeLong>.new", "macro:impl_from"] := rfl

theorem gen_routes_via_new : Gen.SafeLong.fromStrViaNew = true ∧
    Gen.SafeLong.deserializeViaI64ThenNew = true ∧ Gen.SafeLong.tryFromViaI64ThenNew = true ∧
    Gen.SafeLong.fromBodyIsI64From = true := by decide

/-- checked construction accepts exactly the safe range and keeps the value -/
theorem C15_new_iff (v s : Int) : SafeLong.new v = some s ↔ s = v ∧ Safe v := by
  rw [SafeLong.new, Option.ite_some_none_eq_some, gen_newCond_iff, and_comm, eq_comm]

/-- checked conversion from any integer width: the narrowing to `i64` never matters, because the safe range
    lies inside `i64` -/
theorem C15_tryFrom_iff (v s : Int) : tryFrom v = some s ↔ s = v ∧ Safe v := by
  rw [tryFrom]
  fun_cases i64Of v
  · exact C15_new_iff v s
  · simp only [Option.bind_none, reduceCtorEq, false_iff, not_and, Safe]
    omega

/-- every checked route has this shape: an integer, given or parsed from text, is narrowed to `i64` and handed
    to `new` -/
theorem checked_iff (o : Option Int) (s : Int) :
    (o.bind i64Of).bind SafeLong.new = some s ↔ o = some s ∧ Safe s := by
  cases o with
  | none => simp
  | some v =>
    refine (C15_tryFrom_iff v s).trans ⟨?_, ?_⟩
    · rintro ⟨rfl, h⟩; exact ⟨rfl, h⟩
    · rintro ⟨⟨⟩, h⟩; exact ⟨rfl, h⟩

theorem pow_le_32 {n : Nat} (h : n ≤ 32) : (2 ^ n : Int) ≤ 4294967296 :=
  Int.ofNat_le.mpr (Nat.pow_le_pow_right (by decide : 0 < 2) h)

/-- unchecked conversions exist only for widths whose whole range is safe -/
theorem C15_from_widths_safe (w : Bool × Nat) (hw : w ∈ Gen.SafeLong.fromWidths) (v : Int)
    (hv : InWidth w v) : Safe (fromUnchecked v) := by
  have hb := gen_from_widths_small w hw
  have h1 := pow_le_32 hb
  have h2 : (2 ^ (w.2 - 1) : Int) ≤ 4294967296 := pow_le_32 (by omega)
  unfold Safe fromUnchecked
  revert hv
  fun_cases InWidth w v <;> omega

/-- parsing text: accepted exactly when Rust's integer grammar reads a safe value, which is the result -/
theorem C15_fromStr_iff (s : List Nat) (v : Int) : fromStr s = some v ↔ Dec.parseRust s = some v ∧ Safe v :=
  checked_iff _ v

theorem C15_json_iff (s : List Nat) (v : Int) : fromJsonInt s = some v ↔ Dec.parseJson s = some v ∧ Safe v :=
  checked_iff _ v

theorem C15_fromStr_complete (v : Int) (h : Safe v) : fromStr (Dec.showInt v) = some v :=
  (C15_fromStr_iff _ v).mpr ⟨Dec.parseRust_showInt v, h⟩

/-- two different safelongs never have the same text (PLAIN, JSON key and JSON number all use this text) -/
theorem C15_text_injective (v w : Int) (hv : Safe v) (hw : Safe w) (e : Dec.showInt v = Dec.showInt w) : v = w := by
  have h1 := C15_fromStr_complete v hv
  rw [e, C15_fromStr_complete w hw] at h1
  exact (Option.some.inj h1).symm

theorem C15_fromStr_value (s : List Nat) (v : Int) (h : fromStr s = some v) :
    Dec.parseRust s = some v :=
  ((C15_fromStr_iff s v).mp h).1

/-- a route's input is well-formed when it has the shape the route takes and, for the unchecked
    conversions, the integer really is a value of a width that has such a conversion -/
def WF : Route → Input → Prop
  | .fromW w, .int v => w ∈ Gen.SafeLong.fromWidths ∧ InWidth w v
  | _, _ => True

/-- **every route**: whatever the route and its well-formed input (`WF`), a produced safelong is in the safe range -/
theorem C15_every_route_safe (r : Route) (i : Input) (hwf : WF r i) (v : Int)
    (h : run r i = some v) : Safe v := by
  -- by the clauses of `run`: the unchecked conversions, a route given the wrong kind of input, and the checked routes,
  -- from text and from an integer
  revert h
  fun_cases run r i
  case case3 w x => rintro ⟨⟩; exact C15_from_widths_safe w hwf.1 _ hwf.2
  case case10 => nofun
  case case4 s | case5 s | case6 s | case7 s => exact fun h => ((checked_iff _ v).mp h).2
  all_goals exact fun h => ((checked_iff (some _) v).mp h).2

/-- **every route keeps the value**: integer routes return the integer they were given -/
theorem C15_every_route_value (r : Route) (x v : Int) (h : run r (.int x) = some v) : v = x := by
  cases r <;> simp only [run, reduceCtorEq] at h
  case fromW w => exact (Option.some.inj h).symm
  all_goals exact ((C15_tryFrom_iff x v).mp h).1

/-- **every in-range integer is accepted** by every checked route (all but `.fromW`, the unchecked `From`
    conversions, which refuse nothing) and keeps its value -/
theorem C15_every_route_accepts (x : Int) (hs : Safe x) :
    run .new (.int x) = some x ∧ run .tryFrom (.int x) = some x ∧
    run .smile (.int x) = some x ∧ run .any (.int x) = some x ∧
    run .fromStr (.text (Dec.showInt x)) = some x ∧ run .plain (.text (Dec.showInt x)) = some x ∧
    run .jsonValue (.text (Dec.showInt x)) = some x ∧ run .jsonKey (.text (Dec.showInt x)) = some x :=
  have hn := (C15_tryFrom_iff x x).mpr ⟨rfl, hs⟩
  have hj := (C15_json_iff _ x).mpr ⟨Dec.parseJson_showInt x, hs⟩
  ⟨hn, hn, hn, hn, C15_fromStr_complete x hs, C15_fromStr_complete x hs, hj, hj⟩

example : Safe 9007199254740991 ∧ ¬ Safe 9007199254740992 ∧ Safe (-9007199254740991) := by
  unfold Safe; omega
example : run .fromStr (.text [43, 48, 48, 55]) = some 7 := by decide
example : run .jsonKey (.text [48, 55]) = none := by decide
example : WF (.fromW (true, 32)) (.int (-2147483648)) := by unfold WF; decide

end ConjureVerif.C15

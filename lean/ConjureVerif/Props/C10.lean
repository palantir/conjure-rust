import ConjureVerif.Lemmas.EnumUnion
import ConjureVerif.Lemmas.AnyRoundTrip
import ConjureVerif.Gen.ObjPrivateSrc
import ConjureVerif.Lemmas.Pins
/-
C10 — Unknown enum values and union variants survive a round trip unless exhaustive.
-/
namespace ConjureVerif.C10
open ConjureVerif ConjureVerif.Data ConjureVerif.Wrap ConjureVerif.AnyM ConjureVerif.EnumUnion

/-! #### instantiation: `Variant`'s validator and the union field helpers (conjure-object/src/private.rs) -/
theorem gen_variant_validator :
    Gen.ObjPrivateSrc.hashes.lookup "fn valid_enum_variant" = some 5806532344999375027 /- "{ifs.is_empty(){returnfalse;}s.as_bytes().iter().all(|b|matches!(b,b'A'..=b'Z'|b'0'..=b'9'|b'_'))}" -/ ∧
    Gen.ObjPrivateSrc.hashes.lookup "FromStr for Variant::from_str" = some 12159738611131720343 /- "{ifvalid_enum_variant(s){Ok(Variant(s.into()))}else{Err(ParseEnumError::new())}}" -/ ∧
    Gen.ObjPrivateSrc.hashes.lookup "de::Visitor<'de> for UnionFieldVisitor<T>::visit_str" = some 12420967154820704809 /- "{matchvalue{\"type\"=>Ok(UnionField_::Type),value=>T::deserialize(value.into_deserializer()).map(UnionField_::Value),}}" -/ ∧
    Gen.ObjPrivateSrc.hashes.lookup "de::Visitor<'_> for UnionTypeFieldVisitor::visit_str" = some 10153877095946106681 /- "{matchvalue{\"type\"=>Ok(UnionTypeField_),value=>Err(E::invalid_value(de::Unexpected::Str(value),&self)),}}" -/ := by
  simp only [Gen.ObjPrivateSrc.hashes, ↓List.lookup_cons_ite, ↓String.reduceEq, ↓reduceIte, and_self]

/-- **listed values are always themselves**, in both configurations, and re-serialize unchanged -/
theorem C10_enum_listed_never_unknown (exh : Bool) (values : List (List Nat)) (s : List Nat) (i : Nat)
    (h : indexOf values s = some i) :
    enumDe exh values (.str s) = .ok (.known i) ∧ enumSer values (.known i) = some (.str s) := by
  simp [enumDe, h, enumSer, indexOf_get h]

/-- **unknown values survive** the default configuration: any well-formed unlisted name deserializes,
    exposes its name, and re-serializes to the same document -/
theorem C10_enum_unknown_roundtrip (values : List (List Nat)) (s : List Nat)
    (hn : indexOf values s = none) (hv : validVariant s = true) :
    enumDe false values (.str s) = .ok (.unknown s) ∧ enumSer values (.unknown s) = some (.str s) := by
  simp [enumDe, hn, hv, enumSer]

/-- **exhaustive rejects** every unlisted name, well-formed or not (that it accepts the listed ones is
    `C10_enum_listed_never_unknown`) -/
theorem C10_enum_exhaustive_rejects (values : List (List Nat)) (s : List Nat) (hn : indexOf values s = none) :
    enumDe true values (.str s) = .error .other := by
  simp [enumDe, hn]

/-- malformed names are rejected in both configurations -/
theorem C10_enum_malformed_rejected (exh : Bool) (values : List (List Nat)) (s : List Nat)
    (hn : indexOf values s = none) (hv : validVariant s = false) :
    enumDe exh values (.str s) = .error .other := by
  simp [enumDe, hn, hv]

def listed (vs : List UVariant) (t : List Nat) : Option Nat := indexOf (vs.map (·.name)) t

def typeFirst (t : List Nat) (p : Doc) : Doc := .obj (.cons (.text typeKey) (.str t) (.cons (.text t) p .nil))
def valueFirst (t : List Nat) (p : Doc) : Doc := .obj (.cons (.text t) p (.cons (.text typeKey) (.str t) .nil))

/-- **unknown variants survive** the default configuration, in either member order, with any JSON
    payload in which no object names a member twice (`DistinctKeys`: of two members with one name the `Any`
    keeps the later, C13): the variant keeps its name, carries the payload losslessly, and re-serializes to
    the canonical (type-first) document -/
theorem C10_union_unknown_roundtrip (fmt : Fmt) (side : Side) (vs : List UVariant) (t : List Nat) (p : Doc) (a : Any)
    (hn : listed vs t = none) (ht : t ≠ typeKey) (hc : JsonClean p) (hd : DistinctKeys p) (ha : ofJson p = some a) :
    unionDe fmt side false vs (typeFirst t p) = .ok (.unknown t a) ∧
    unionDe fmt side false vs (valueFirst t p) = .ok (.unknown t a) ∧
    unionSer .json vs (.unknown t a) = some (typeFirst t p) := by
  have h := unionDe_tagged fmt side p (variantOf_unlisted false hn) ht
  simp only [payloadOf, ha] at h
  exact ⟨h.1, h.2, by simp only [unionSer, typeFirst, jsonAnyJson p hc hd a ha, Option.map_some]⟩

/-- **listed variants are never unknown**: whatever the payload, a document naming a listed variant
    either fails or yields that variant -/
theorem C10_union_listed_never_unknown (fmt : Fmt) (side : Side) (exh : Bool) (vs : List UVariant) (t : List Nat)
    (p : Doc) (i : Nat) (hl : listed vs t = some i) (ht : t ≠ typeKey) (r : UVal) :
    (unionDe fmt side exh vs (typeFirst t p) = .ok r → ∃ v, r = .known i v) ∧
    (unionDe fmt side exh vs (valueFirst t p) = .ok r → ∃ v, r = .known i v) := by
  have h := unionDe_tagged fmt side p (variantOf_listed exh hl) ht
  exact ⟨fun h1 => payloadOf_known (h.1.symm.trans h1), fun h2 => payloadOf_known (h.2.symm.trans h2)⟩

/-- **exhaustive rejects** documents naming an unlisted variant, in either order -/
theorem C10_union_exhaustive_rejects (fmt : Fmt) (side : Side) (vs : List UVariant) (t : List Nat) (p : Doc)
    (hn : listed vs t = none) (ht : t ≠ typeKey) :
    unionDe fmt side true vs (typeFirst t p) = .error .other ∧
    unionDe fmt side true vs (valueFirst t p) = .error .other :=
  unionDe_untagged fmt side p (variantOf_unlisted true hn) ht

/-- **listed variants behave identically** in both configurations -/
theorem C10_listed_same_both_modes (fmt : Fmt) (side : Side) (vs : List UVariant) (t : List Nat) (p : Doc) (i : Nat)
    (hl : listed vs t = some i) (ht : t ≠ typeKey) :
    unionDe fmt side true vs (typeFirst t p) = unionDe fmt side false vs (typeFirst t p) ∧
    unionDe fmt side true vs (valueFirst t p) = unionDe fmt side false vs (valueFirst t p) := by
  have h1 := unionDe_tagged fmt side p (variantOf_listed true hl) ht
  have h2 := unionDe_tagged fmt side p (variantOf_listed false hl) ht
  exact ⟨h1.1.trans h2.1.symm, h1.2.trans h2.2.symm⟩

/-- a listed variant with a well-typed payload serializes to a type-first document, and that document and its
    value-first twin both deserialize to it -/
theorem C10_union_listed_roundtrip (fmt : Fmt) (side : Side) (exh : Bool) (vs : List UVariant) (i : Nat) (uv : UVariant)
    (v : Val) (hg : vs[i]? = some uv) (hl : listed vs uv.name = some i) (ht : uv.name ≠ typeKey)
    (hty : HasTy uv.ty v) :
    ∃ d, unionSer fmt vs (.known i v) = some (typeFirst uv.name d) ∧
      unionDe fmt side exh vs (typeFirst uv.name d) = .ok (.known i v) ∧
      unionDe fmt side exh vs (valueFirst uv.name d) = .ok (.known i v) := by
  obtain ⟨d, h1, h2⟩ := rt fmt side hty
  have h := unionDe_tagged fmt side d (variantOf_listed exh hl) ht
  simp only [payloadOf, hg, h2, map_ok] at h
  exact ⟨d, by simp only [unionSer, hg, h1, typeFirst, Option.map_some], h⟩

example : validVariant [66, 79, 71, 85, 83, 95, 49] = true ∧ validVariant [98] = false ∧ validVariant [] = false := by
  decide +kernel
example : listed [{ name := [97], ty := .f64 }] [102, 111, 111] = none ∧ ([102, 111, 111] : List Nat) ≠ typeKey := by
  decide
example : JsonClean (.obj (.cons (.text [97]) (.arr (.cons (.int 1) (.cons (.str txtNaN) (.cons .null .nil)))) .nil)) := by
  simp [JsonClean, JsonCleanM, JsonCleanL]

end ConjureVerif.C10

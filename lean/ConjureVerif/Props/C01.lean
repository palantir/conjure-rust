import ConjureVerif.Lemmas.WrapShape
import ConjureVerif.Lemmas.Base64Canon
import ConjureVerif.Gen.WrapTable
import ConjureVerif.Gen.JsonSerSrc
import ConjureVerif.Gen.SmileSerSrc
import ConjureVerif.Gen.SmileDeClientSrc
import ConjureVerif.Lemmas.Pins
/-
C01 — JSON and Smile wrappers round-trip every Conjure value in Conjure encoding.

`Wrap.ser` / `Wrap.de` interpret the wrapper chain over the whole serde data model; they descend at
exactly the entry points where `Override` re-wraps.  That the source really re-wraps at every such
entry point — with `B` everywhere and `B::KeyBehavior` for map keys — is the instantiation lemma
`gen_ser_table` / `gen_de_table` over tables re-extracted from ser.rs and de/mod.rs on every run.
-/
namespace ConjureVerif.C01
open ConjureVerif ConjureVerif.Data ConjureVerif.Wrap

/-- ser.rs and de/mod.rs were both found and parsed when the tables were extracted -/
theorem gen_extract_ok : Gen.WrapTable.extractOk = true := by decide

/-- serializer side (ser.rs): per method of each `impl .. for Override<S, B>`, the behaviour arguments of the
    `Override` wraps in its body and its `B::` dispatches.  Every nested `Serialize` and every compound serializer
    is re-wrapped with `B`, map keys with `B::KeyBehavior`; bool / f32 / f64 / bytes go through `behavior!`, which
    dispatches to the behaviour (`gen_ser_macros`); `is_human_readable` neither wraps nor dispatches -/
theorem gen_ser_table : Gen.WrapTable.serTable = [
  ("Serializer", "delegate!", ["serialize_i8", "serialize_i16", "serialize_i32", "serialize_i64", "serialize_i128", "serialize_u8", "serialize_u16", "serialize_u32", "serialize_u64", "serialize_u128", "serialize_char", "serialize_str"], []),
  ("Serializer", "behavior!", ["serialize_bool", "serialize_f32", "serialize_f64", "serialize_bytes"], []),
  ("Serializer", "serialize_none", [], []),
  ("Serializer", "serialize_some", ["B"], []),
  ("Serializer", "serialize_unit", [], []),
  ("Serializer", "serialize_unit_struct", [], []),
  ("Serializer", "serialize_unit_variant", [], []),
  ("Serializer", "serialize_newtype_struct", ["B"], []),
  ("Serializer", "serialize_newtype_variant", ["B"], []),
  ("Serializer", "serialize_seq", ["B"], []),
  ("Serializer", "serialize_tuple", ["B"], []),
  ("Serializer", "serialize_tuple_struct", ["B"], []),
  ("Serializer", "serialize_tuple_variant", ["B"], []),
  ("Serializer", "serialize_map", ["B"], []),
  ("Serializer", "serialize_struct", ["B"], []),
  ("Serializer", "serialize_struct_variant", ["B"], []),
  ("Serializer", "is_human_readable", [], []),
  ("Serialize", "serialize", ["B"], []),
  ("SerializeSeq", "serialize_element", ["B"], []),
  ("SerializeSeq", "end", [], []),
  ("SerializeTuple", "serialize_element", ["B"], []),
  ("SerializeTuple", "end", [], []),
  ("SerializeTupleStruct", "serialize_field", ["B"], []),
  ("SerializeTupleStruct", "end", [], []),
  ("SerializeTupleVariant", "serialize_field", ["B"], []),
  ("SerializeTupleVariant", "end", [], []),
  ("SerializeMap", "serialize_key", ["B::KeyBehavior"], []),
  ("SerializeMap", "serialize_value", ["B"], []),
  ("SerializeMap", "end", [], []),
  ("SerializeStruct", "serialize_field", ["B"], []),
  ("SerializeStruct", "skip_field", [], []),
  ("SerializeStruct", "end", [], []),
  ("SerializeStructVariant", "serialize_field", ["B"], []),
  ("SerializeStructVariant", "skip_field", [], []),
  ("SerializeStructVariant", "end", [], [])] := rfl

/-- the macro bodies: `delegate!` neither wraps nor dispatches, `behavior!` dispatches to `B::$name`, and the 15
    wraps in `impl_serialize_body!` (the concrete serializers' entry points) all carry its `$behavior` -/
theorem gen_ser_macros :
    Gen.WrapTable.serMacro_delegate = ([], []) ∧ Gen.WrapTable.serMacro_behavior = ([], ["$name"]) ∧
    Gen.WrapTable.serMacro_impl_serialize_body.1.all (· == "$behavior") = true ∧
    Gen.WrapTable.serMacro_impl_serialize_body.1.length = 15 := by decide +kernel

/-- deserializer side (de/mod.rs), likewise: visitors, seeds, sequence / map / enum / variant accesses are all
    re-wrapped with `B` (by an inferred `Override::new` for the variant access `variant_seed` returns), keys with
    `B::KeyBehavior`; `deserialize_struct` dispatches to the behaviour; bool / f32 / f64 / bytes / byte_buf go
    through `behavior!` (`gen_de_macros`) -/
theorem gen_de_table : Gen.WrapTable.deTable = [
  ("Deserializer", "delegate_deserialize!", ["deserialize_any", "deserialize_i8", "deserialize_i16", "deserialize_i32", "deserialize_i64", "deserialize_i128", "deserialize_u8", "deserialize_u16", "deserialize_u32", "deserialize_u64", "deserialize_u128", "deserialize_char", "deserialize_str", "deserialize_string", "deserialize_option", "deserialize_unit", "deserialize_seq", "deserialize_map", "deserialize_identifier", "deserialize_ignored_any"], []),
  ("Deserializer", "behavior!", ["deserialize_bool", "deserialize_f32", "deserialize_f64", "deserialize_bytes", "deserialize_byte_buf"], []),
  ("Deserializer", "deserialize_unit_struct", ["B"], []),
  ("Deserializer", "deserialize_newtype_struct", ["B"], []),
  ("Deserializer", "deserialize_tuple", ["B"], []),
  ("Deserializer", "deserialize_tuple_struct", ["B"], []),
  ("Deserializer", "deserialize_struct", ["B"], ["deserialize_struct"]),
  ("Deserializer", "deserialize_enum", ["B"], []),
  ("Deserializer", "is_human_readable", [], []),
  ("Visitor", "expecting", [], []),
  ("Visitor", "delegate_visit!", ["visit_bool", "visit_i8", "visit_i16", "visit_i32", "visit_i64", "visit_i128", "visit_u8", "visit_u16", "visit_u32", "visit_u64", "visit_u128", "visit_f32", "visit_f64", "visit_char", "visit_str", "visit_borrowed_str", "visit_string", "visit_bytes", "visit_borrowed_bytes", "visit_byte_buf"], []),
  ("Visitor", "visit_none", [], []),
  ("Visitor", "visit_some", ["B"], []),
  ("Visitor", "visit_unit", [], []),
  ("Visitor", "visit_newtype_struct", ["B"], []),
  ("Visitor", "visit_seq", ["B"], []),
  ("Visitor", "visit_map", ["B"], []),
  ("Visitor", "visit_enum", ["B"], []),
  ("SeqAccess", "next_element_seed", ["B"], []),
  ("SeqAccess", "size_hint", [], []),
  ("MapAccess", "next_key_seed", ["B::KeyBehavior"], []),
  ("MapAccess", "next_value_seed", ["B"], []),
  ("MapAccess", "size_hint", [], []),
  ("EnumAccess", "variant_seed", ["B", "B(inferred)"], []),
  ("VariantAccess", "unit_variant", [], []),
  ("VariantAccess", "newtype_variant_seed", ["B"], []),
  ("VariantAccess", "tuple_variant", ["B"], []),
  ("VariantAccess", "struct_variant", ["B"], []),
  ("DeserializeSeed", "deserialize", ["B"], [])] := rfl

/-- the macro bodies: `delegate_deserialize!` wraps the visitor with `B`, `behavior!` also dispatches to
    `B::$method`, `delegate_visit!` does neither, and the 7 wraps in `impl_deserialize_body!` all carry its
    `$behavior` -/
theorem gen_de_macros :
    Gen.WrapTable.deMacro_delegate_deserialize = (["B"], []) ∧ Gen.WrapTable.deMacro_behavior = (["B"], ["$method"]) ∧
    Gen.WrapTable.deMacro_delegate_visit = ([], []) ∧
    Gen.WrapTable.deMacro_impl_deserialize_body.1.all (· == "$behavior") = true ∧
    Gen.WrapTable.deMacro_impl_deserialize_body.1.length = 7 := by decide +kernel

/-- five of the seven JSON behaviour bodies the interpreter's leaf cases transcribe (json/ser.rs); the two
    `serialize_f32` ones, which read like the f64 ones, are left out -/
theorem gen_json_ser_behaviors :
    Gen.JsonSerSrc.hashes.lookup "Behavior for ValueBehavior::serialize_f64" = some 12246971936739892778 /- "{ifv.is_nan(){ser.serialize_str(\"NaN\")}elseifv==f64::INFINITY{ser.serialize_str(\"Infinity\")}elseifv==f64::NEG_INFINITY{ser.serialize_str(\"-Infinity\")}else{ser.serialize_f64(v)}}" -/ ∧
    Gen.JsonSerSrc.hashes.lookup "Behavior for ValueBehavior::serialize_bytes" = some 16583646635135397205 /- "{ser.collect_str(&Base64Display::new(v,&STANDARD))}" -/ ∧
    Gen.JsonSerSrc.hashes.lookup "Behavior for KeyBehavior::serialize_bool" = some 1329447138230407948 /- "{ifv{ser.serialize_str(\"true\")}else{ser.serialize_str(\"false\")}}" -/ ∧
    Gen.JsonSerSrc.hashes.lookup "Behavior for KeyBehavior::serialize_f64" = some 13998938644453356541 /- "{ifv.is_nan(){ser.serialize_str(\"NaN\")}elseifv==f64::INFINITY{ser.serialize_str(\"Infinity\")}elseifv==f64::NEG_INFINITY{ser.serialize_str(\"-Infinity\")}else{ser.collect_str(&v)}}" -/ ∧
    Gen.JsonSerSrc.hashes.lookup "Behavior for KeyBehavior::serialize_bytes" = some 16583646635135397205 /- "{ser.collect_str(&Base64Display::new(v,&STANDARD))}" -/ := by
  simp only [Gen.JsonSerSrc.hashes, ↓List.lookup_cons_ite, ↓String.reduceEq, ↓reduceIte, and_self]

/-- Smile: the serializer is built with `raw_binary(true)`; neither smile/ser.rs nor smile/de/client.rs overrides
    a behaviour method (that their `KeyBehavior` is JSON's is an associated type, which the tables do not record) -/
theorem gen_smile_behaviors :
    Gen.SmileSerSrc.hashes.lookup "Serializer<W>::new" = some 14783835765627538931 /- "{Serializer(serde_smile::Serializer::builder().raw_binary(true).build(writer),)}" -/ ∧
    (Gen.SmileSerSrc.bodies.filter (fun p => p.1.startsWith "Behavior for ")).length = 0 ∧
    (Gen.SmileDeClientSrc.bodies.filter (fun p => p.1.startsWith "Behavior for ")).length = 0 := by
  refine ⟨by simp only [Gen.SmileSerSrc.hashes, ↓List.lookup_cons_ite, ↓String.reduceEq, ↓reduceIte], ?_, ?_⟩ <;>
    simp (disch := rfl) only [Gen.SmileSerSrc.bodies, Gen.SmileDeClientSrc.bodies, List.filter_cons_append,
      List.filter_nil, String.startsWith_eq_isPrefixOf, String.toList_of_eq] <;> rfl

/-- **round trip**: every well-typed value, serialized with the Conjure JSON or Smile serializer and
    read back by the client or the server deserializer, yields the same value -/
theorem C01_roundtrip (fmt : Fmt) (side : Side) (t : Ty) (v : Val) (h : HasTy t v) :
    ∃ d, ser fmt t v = some d ∧ de fmt side t d = .ok v := rt fmt side h

theorem C01_json_roundtrip (side : Side) (t : Ty) (v : Val) (h : HasTy t v) :
    ∃ d, ser .json t v = some d ∧ de .json side t d = .ok v := rt .json side h

theorem C01_smile_roundtrip (side : Side) (t : Ty) (v : Val) (h : HasTy t v) :
    ∃ d, ser .smile t v = some d ∧ de .smile side t d = .ok v := rt .smile side h

/-- **no two values share a document** (either format): the wrapper chain loses nothing, so two well-typed
    values of one type that serialize to the same document are the same value (of one type: the double `NaN`
    and the string `"NaN"` are the same JSON document) -/
theorem C01_ser_injective (fmt : Fmt) (t : Ty) (v w : Val) (hv : HasTy t v) (hw : HasTy t w)
    (e : ser fmt t v = ser fmt t w) : v = w := by
  obtain ⟨d, hs, hd⟩ := rt fmt .client hv
  exact Except.ok.inj (hd.symm.trans (of_eq_some (rt fmt .client hw) d (e ▸ hs)))

/-- **standard JSON**: the JSON document of a well-typed value contains no native binary and no
    non-finite number at any depth -/
theorem C01_json_standard (t : Ty) (v : Val) (h : HasTy t v) (d : Doc) (hs : ser .json t v = some d) :
    JsonClean d := clean .json rfl h d hs

/-- **leaf spellings in JSON**: binary is padded standard Base64; NaN and the infinities are the
    strings `NaN`, `Infinity`, `-Infinity`; finite doubles are number tokens -/
theorem C01_json_leaf_spellings (bs : List Nat) (bits : Nat) :
    ser .json .bytes (.bytes bs) = some (.str (Base64.encode bs)) ∧
    ser .json .f64 (.f64 .nan) = some (.str [78, 97, 78]) ∧
    ser .json .f64 (.f64 .posInf) = some (.str [73, 110, 102, 105, 110, 105, 116, 121]) ∧
    ser .json .f64 (.f64 .negInf) = some (.str [45, 73, 110, 102, 105, 110, 105, 116, 121]) ∧
    ser .json .f64 (.f64 (.fin bits)) = some (.dbl (.fin bits)) :=
  ⟨rfl, rfl, rfl, rfl, rfl⟩

/-- **binary has one JSON spelling**: the string the JSON wrapper accepts for a binary value is exactly the
    string the serializer writes for the bytes it yields (canonical padding, zero trailing bits), and what it
    yields are bytes — so reading a binary and writing it again reproduces the document -/
theorem C01_json_binary_text_is_unique (s bs : List Nat) (h : deBytes .json (.str s) = .ok bs) :
    serBytes .json bs = .str s ∧ ∀ b ∈ bs, b < 256 := by
  simp only [deBytes, if_true] at h
  split at h
  · next hd => cases h; exact (Base64.encode_decode s _ hd).imp (congrArg Doc.str) id
  · cases h

/-- in key position (both formats) likewise: the accepted text is the text written for the bytes it yields -/
theorem C01_binary_key_text_is_unique (s bs : List Nat) (h : deKey .bytes (.text s) = .ok (.bytes bs)) :
    serKey .bytes (.bytes bs) = some (.text s) := by
  simp only [deKey] at h
  split at h
  · next hd => cases h; exact congrArg (some <| Key.text ·) (Base64.encode_decode s _ hd).1
  · cases h

example : deBytes .json (.str [65, 81, 73, 61]) = .ok [1, 2] ∧ deKey .bytes (.text [65, 81, 73, 61]) = .ok (.bytes [1, 2]) :=
  ⟨rfl, rfl⟩

/-- **key spellings** (both formats): booleans `true`/`false`, integers in decimal, non-finite doubles by
    name, binary as padded Base64, uuids hyphenated, strings as is, aliases as their target (not here: a finite
    double, `Key.flt`; an enum key, its wire name: `KeyOk.unitVariant` in `deKey_serKey`) -/
theorem C01_key_spellings (n : Int) (w : IntW) (s bs : List Nat) (t : Ty) (v : Val) :
    serKey .bool (.bool true) = some (.text [116, 114, 117, 101]) ∧
    serKey .bool (.bool false) = some (.text [102, 97, 108, 115, 101]) ∧
    serKey (.int w) (.int n) = some (.text (Dec.showInt n)) ∧
    serKey .f64 (.f64 .nan) = some (.text [78, 97, 78]) ∧
    serKey .f64 (.f64 .posInf) = some (.text [73, 110, 102, 105, 110, 105, 116, 121]) ∧
    serKey .f64 (.f64 .negInf) = some (.text [45, 73, 110, 102, 105, 110, 105, 116, 121]) ∧
    serKey .str (.str s) = some (.text s) ∧
    serKey .bytes (.bytes bs) = some (.text (Base64.encode bs)) ∧
    serKey .uuid (.uuid bs) = some (.text (Plain.uuidText bs)) ∧
    serKey (.newtype t) (.newtype v) = serKey t v :=
  ⟨rfl, rfl, rfl, rfl, rfl, rfl, rfl, rfl, rfl, rfl⟩

/-- **Smile uses the same keys**: member names of the Smile document equal those of the JSON
    document, in the same order -/
theorem C01_smile_same_keys (t : Ty) (v : Val) (h : HasTy t v) (dj ds : Doc)
    (hj : ser .json t v = some dj) (hs : ser .smile t v = some ds) : keysOf dj = keysOf ds :=
  sameKeys h dj ds hj hs

/-- Smile carries binary and doubles natively: no Base64 text, no `NaN`/`Infinity` strings -/
theorem C01_smile_native (bs : List Nat) (d : Dbl) :
    ser .smile .bytes (.bytes bs) = some (.bin bs) ∧ ser .smile .f64 (.f64 d) = some (.dbl d) := by
  refine ⟨rfl, ?_⟩
  cases d <;> rfl

/-! #### non-vacuity: a struct holding an optional list of NaN under a bool-keyed map, three levels deep -/
def exTy : Ty :=
  .struct (.cons [97] (.map .bool (.option (.seq .f64))) (.cons [98] .bytes .nil))
def exVal : Val :=
  .struct (.cons (.map (.cons (.bool true) (.some (.seq (.cons (.f64 .nan) .nil))) .nil)) (.cons (.bytes [1, 2]) .nil))

example : HasTy exTy exVal := by
  refine .struct _ _ (by decide) (.cons _ _ _ _ _ ?_ (.cons _ _ _ _ _ (.bytes _ (by unfold Bytes; decide)) .nil))
  refine .map _ _ _ (.cons _ _ _ _ _ (.bool true) ?_ (.nil _ _))
  refine .some _ _ (.seq _ _ (.cons _ _ _ (.f64 .nan) (.nil _))) ?_
  intro fmt
  cases fmt <;> exact nofun

end ConjureVerif.C01

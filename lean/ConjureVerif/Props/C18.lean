import ConjureVerif.Props.C06
/-
C18 — Clients return a value only from a complete, correctly typed response.
-/
namespace ConjureVerif.C18
open ConjureVerif ConjureVerif.Body ConjureVerif.C06

/-- a value comes from, and only from, a JSON-typed response whose whole body, however chunked, is one
    well-formed document of the return type -/
theorem C18_serializable_iff (ctJson : Bool) (cs : List Chunk) (parse : List Nat → Parse) (v : Nat) :
    decodeSerializable ctJson cs parse = .value v ↔
      (ctJson = true ∧ ∃ body, AllOk cs body ∧ parse body = .value v true) := by
  cases ctJson with
  | false => simp [decodeSerializable]
  | true =>
    have read : ∀ body, readBody none cs = .ok body ↔ AllOk cs body := by
      intro body; rw [readBody_ok_iff]; exact and_iff_left rfl
    simp only [decodeSerializable, true_and, ← read]
    cases readBody none cs <;> simp [clientOfParse_value]

/-- **chunking independence**: two error-free chunkings of the same bytes decode identically -/
theorem C18_chunking_independent (bss bss' : List (List Nat)) (h : bss.flatten = bss'.flatten)
    (parse : List Nat → Parse) :
    decodeSerializable true (oks bss) parse = decodeSerializable true (oks bss') parse := by
  rw [ser_oks, ser_oks, h]

/-- **never partial**: if any stream item is an error, reading fails with that (first) error — no
    value is produced from the bytes before it -/
theorem C18_never_partial (pre : List (List Nat)) (e : Nat) (post : List Chunk)
    (parse : List Nat → Parse) :
    decodeSerializable true (oks pre ++ Chunk.err e :: post) parse = .streamError e := by
  unfold decodeSerializable
  rw [readBody_err]; rfl

/-- the five response kinds: exactly when each returns what -/
theorem C18_value_iff (k : Kind) (s204 ctJson ctOctet : Bool) (cs : List Chunk) (parse : List Nat → Parse) :
    (k = .serializable → ∀ v, decodeResponse k s204 ctJson ctOctet cs parse = .value v ↔
        decodeSerializable ctJson cs parse = .value v) ∧
    (k = .defaultSerializable → (s204 = true → decodeResponse k s204 ctJson ctOctet cs parse = .default_) ∧
        (s204 = false → decodeResponse k s204 ctJson ctOctet cs parse = decodeSerializable ctJson cs parse)) ∧
    (k = .empty → (decodeResponse k s204 ctJson ctOctet cs parse = .unit ↔
        s204 = true ∨ ∃ v, decodeSerializable ctJson cs parse = .value v)) ∧
    (k = .binary → (decodeResponse k s204 ctJson ctOctet cs parse = .stream ↔ ctOctet = true)) ∧
    (k = .optionalBinary → (decodeResponse k s204 ctJson ctOctet cs parse = .default_ ↔ s204 = true) ∧
        (decodeResponse k s204 ctJson ctOctet cs parse = .stream ↔ s204 = false ∧ ctOctet = true)) := by
  refine ⟨?_, ?_, ?_, ?_, ?_⟩ <;> intro hk <;> subst hk
  · intro v; simp [decodeResponse]
  · constructor <;> intro h <;> simp [decodeResponse, h]
  · simp only [decodeResponse]
    cases s204 with
    | true => simp
    | false =>
      simp only [Bool.false_eq_true, if_false, false_or]
      rcases decodeSerializable_range ctJson cs parse with ⟨v, hd⟩ | hd | ⟨e, hd⟩ <;> simp [hd]
  · simp only [decodeResponse]; cases ctOctet <;> simp
  · simp only [decodeResponse]; cases s204 <;> cases ctOctet <;> simp

/-- a response of status other than 204 with neither Content-Type yields no value, stream, unit or default,
    whatever kind is asked for: what is left is an error -/
theorem C18_wrong_content_type (k : Kind) (cs : List Chunk) (parse : List Nat → Parse) :
    (∀ v, decodeResponse k false false false cs parse ≠ .value v) ∧
    decodeResponse k false false false cs parse ≠ .stream ∧
    decodeResponse k false false false cs parse ≠ .unit ∧
    decodeResponse k false false false cs parse ≠ .default_ := by
  cases k <;> simp [decodeResponse, decodeSerializable]

example : decodeResponse .defaultSerializable false true false [.ok [91], .ok [93]]
    (fun b => if b = [91, 93] then .value 0 true else .invalid) = .value 0 := by decide
example : decodeResponse .empty false true false [.ok [91], .err 3] (fun _ => .value 0 true) = .streamError 3 := by
  decide

end ConjureVerif.C18

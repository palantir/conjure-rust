import ConjureVerif.Lemmas.Endpoint
import ConjureVerif.Lemmas.Emit
import ConjureVerif.Lemmas.Pins
import ConjureVerif.Gen.MacroEndpointsSrc
import ConjureVerif.Gen.PrivateServerSrc
import ConjureVerif.Gen.ServerModSrc
import ConjureVerif.Gen.ServerConjureSrc
/-
C19 — Undecodable request parameters yield a client error naming the declared argument.

Model/Endpoint.lean is the handler a `#[conjure_endpoints]` trait expands to, up to the call of the user's method:
arguments decoded in declaration order by the helpers of conjure-http/src/private/server.rs with the decoders the
generator selects (FromPlain / FromPlainOption / FromPlainSeq, FromDecoder being transparent), first failure wins.
`Gen.ParamNames` (extracted on every run from conjure-macros/src/endpoints.rs) says which name each
`generate_<kind>_arg` hands to the helper for the `param` entry.  `C19G`, at the end, is the generator's side
(Model/Emit.lean): the server trait it emits has every argument reported under its declared Conjure name.
-/
namespace ConjureVerif.C19
open ConjureVerif ConjureVerif.Endpoint

/-- path, query, header and body parameters report the `log_as` (declared) name, and safe parameters are recorded
under it -/
theorem gen_param_names : Gen.ParamNames.extractOk = true ∧
    nameSource "path" = "logAs" ∧ nameSource "query" = "logAs" ∧ nameSource "header" = "logAs" ∧
    nameSource "body" = "logAs" ∧ nameSource "safeKey" = "logAs" := by decide +kernel

theorem safeKey_logName (a : ArgSpec) : safeKey a = a.logName := by
  simp [safeKey, gen_param_names.2.2.2.2.2]

/-- the source text the model was written against, by hash, as one Boolean (here and in the two definitions below) so
that a mismatch fails fast.  This one: conjure-macros/src/endpoints.rs -/
def gen_macro_source_ok : Bool :=
  (Gen.MacroEndpointsSrc.hashes.lookup "fn generate_endpoint_handler" == some 3690477037999861193 /- "{letstruct_name=endpoint_name(endpoint);letrequest=quote!(__request);letresponse_extensions=quote!(__response_extensions);letparts=quote!(__parts);letbody=quote!(__body);letquery_params=quote!(__query_params);letsafe_params=quote!(__safe_params);letresponse=quote!(__response);letmethod=&endpoint.ident;letImplParams{impl_generics,where_clause,request_body,response_writer,trait_impl,}=impl_params(service);letendpoint_trait=matchservice.asyncness{Asyncness::Sync=>quote!(Endpoint),Asyncness::Async=>quote!(AsyncEndpoint),};letasync_=matchservice.asyncness{Asyncness::Sync=>quote!(),Asyncness::Async=>quote!(async),};letresponse_body=matchservice.asyncness{Asyncness::Sync=>quote!(ResponseBody),Asyncness::Async=>quote!(AsyncResponseBody),};letgenerate_query_params=ifhas_query_params(endpoint){quote!{let#query_params=conjure_http::private::parse_query_params(&#parts);}}else{quote!()};letgenerate_safe_params=ifhas_safe_params(endpoint){quote!{#response_extensions.insert(conjure_http::SafeParams::new());let#safe_params=#response_extensions.get_mut::<conjure_http::SafeParams>().unwrap();}}else{quote!()};letgenerate_args=endpoint.args.iter().map(|arg|{generate_arg(&parts,&body,&query_params,&response_extensions,&safe_params,service,arg,)});letargs=endpoint.args.iter().map(|arg|arg.ident());letawait_=matchservice.asyncness{Asyncness::Sync=>quote!(),Asyncness::Async=>quote!(.await),};letgenerate_response=generate_response(&parts,&response,service,endpoint);quote!{impl#impl_genericsconjure_http::server::#endpoint_trait<#request_body,#response_writer>for#struct_name<#trait_impl>#where_clause{#async_fnhandle(&self,#request:conjure_http::private::Request<#request_body>,#response_extensions:&mutconjure_http::private::Extensions,)->conjure_http::private::Result<conjure_http::private::Response<conjure_http::server::#response_body<#response_writer>>,conjure_http::private::Error,>{let(#parts,#body)=#request.into_parts();#generate_query_params#generate_safe_params#(#generate_args)*let#response=self.handler.#method(#(#args),*)#await_?;#generate_response}}}}" -/) &&
  (Gen.MacroEndpointsSrc.hashes.lookup "fn generate_arg" == some 10363124566793418177 /- "{letgenerate_arg=matcharg{ArgType::Path(arg)=>generate_path_arg(parts,arg),ArgType::Query(arg)=>generate_query_arg(query_params,arg),ArgType::Header(arg)=>generate_header_arg(parts,arg),ArgType::Auth(arg)=>generate_auth_arg(parts,arg),ArgType::Body(arg)=>generate_body_arg(parts,body,service,arg),ArgType::Context(arg)=>generate_context_arg(parts,response_extensions,arg),};letsafe_log=ifarg.safe(){letname=&arg.ident();letkey=arg.log_as();quote!{#safe_params.insert(#key,&#name);}}else{quote!()};quote!{#generate_arg#safe_log}}" -/) &&
  (Gen.MacroEndpointsSrc.hashes.lookup "fn generate_path_arg" == some 10877479656661404801 /- "{letname=&arg.ident;letparam=match&arg.params.name{Some(name)=>name.value(),None=>arg.ident.to_string(),};letlog_as=arg.log_as();letdecoder=arg.params.decoder.as_ref().map_or_else(||quote!(conjure_http::server::FromStrDecoder),|d|quote!(#d),);quote!{let#name=conjure_http::private::path_param::<_,#decoder>(&self.runtime,&#parts,#param,#log_as,)?;}}" -/) &&
  (Gen.MacroEndpointsSrc.hashes.lookup "fn generate_query_arg" == some 13113819969034372553 /- "{letname=&arg.ident;letkey=&arg.params.name;letlog_as=arg.log_as();letdecoder=arg.params.decoder.as_ref().map_or_else(||quote!(conjure_http::server::FromStrDecoder),|d|quote!(#d),);quote!{let#name=conjure_http::private::query_param::<_,#decoder>(&self.runtime,&#query_params,#key,#log_as,)?;}}" -/) &&
  (Gen.MacroEndpointsSrc.hashes.lookup "fn generate_header_arg" == some 17531250836635173135 /- "{letname=&arg.ident;letheader=&arg.params.name;letlog_as=arg.log_as();letdecoder=arg.params.decoder.as_ref().map_or_else(||quote!(conjure_http::server::FromStrDecoder),|d|quote!(#d),);quote!{let#name=conjure_http::private::header_param::<_,#decoder>(&self.runtime,&#parts,#header,#log_as,)?;}}" -/) &&
  (Gen.MacroEndpointsSrc.hashes.lookup "fn generate_auth_arg" == some 4052299432960015593 /- "{letname=&arg.ident;letcall=match&arg.params.cookie_name{Some(cookie_name)=>{letprefix=format!(\"{}=\",cookie_name.value());quote!(parse_cookie_auth(&#parts,#prefix))}None=>quote!(parse_header_auth(&#parts)),};quote!{let#name=conjure_http::private::#call?;}}" -/) &&
  (Gen.MacroEndpointsSrc.hashes.lookup "fn generate_body_arg" == some 13857794613402459123 /- "{letname=&arg.ident;letfunction=matchservice.asyncness{Asyncness::Sync=>quote!(body_arg),Asyncness::Async=>quote!(async_body_arg),};letdeserializer=arg.params.deserializer.as_ref().map_or_else(||quote!(conjure_http::server::StdRequestDeserializer),|d|quote!(#d),);letlog_as=arg.log_as();letawait_=matchservice.asyncness{Asyncness::Sync=>quote!(),Asyncness::Async=>quote!(.await),};quote!{let#name=conjure_http::private::#function::<#deserializer,_,_>(&self.runtime,&#parts.headers,#body,#log_as,)#await_?;}}" -/)

theorem gen_macro_source : gen_macro_source_ok = true := by
  simp only [gen_macro_source_ok, Gen.MacroEndpointsSrc.hashes, ↓List.lookup_cons_ite, ↓String.reduceEq, ↓reduceIte, beq_self_eq_true, Bool.and_self]

/-- conjure-http/src/private/server.rs -/
def gen_private_server_source_ok : Bool :=
  (Gen.PrivateServerSrc.hashes.lookup "fn path_param" == some 9065395318739115371 /- "{letpath_params=parts.extensions.get::<PathParams>().expect(\"PathParamsmissingfromrequest\");letvalue=&path_params[param];letparams=value.split('/').map(percent_encoding::percent_decode_str).map(|v|v.decode_utf8_lossy());D::decode(runtime,params).map_err(|e|e.with_safe_param(\"param\",log_as))}" -/) &&
  (Gen.PrivateServerSrc.hashes.lookup "fn parse_query_params" == some 3339896056040469762 /- "{letquery=matchparts.uri.query(){Some(query)=>query,None=>returnHashMap::new(),};letmutmap=HashMap::new();for(key,value)inform_urlencoded::parse(query.as_bytes()){map.entry(key).or_insert_with(Vec::new).push(value);}map}" -/) &&
  (Gen.PrivateServerSrc.hashes.lookup "fn query_param" == some 2565579306598539793 /- "{letvalues=query_params.get(key).into_iter().flatten();D::decode(runtime,values).map_err(|e|e.with_safe_param(\"param\",log_as))}" -/) &&
  (Gen.PrivateServerSrc.hashes.lookup "fn header_param" == some 12302334391878900162 /- "{D::decode(runtime,parts.headers.get_all(header)).map_err(|e|e.with_safe_param(\"param\",log_as))}" -/) &&
  (Gen.PrivateServerSrc.hashes.lookup "fn parse_cookie_auth" == some 15803065438027436293 /- "{parse_auth_inner(parts,prefix,COOKIE)}" -/) &&
  (Gen.PrivateServerSrc.hashes.lookup "fn parse_header_auth" == some 17684180691494282351 /- "{parse_auth_inner(parts,\"Bearer\",AUTHORIZATION)}" -/) &&
  (Gen.PrivateServerSrc.hashes.lookup "fn parse_auth_inner" == some 11688810110858210225 /- "{letheader=matchparts.headers.get(header){Some(header)=>header,None=>{returnErr(Error::service_safe(\"requiredauthheadermissing\",PermissionDenied::new(),));}};letheader=header.to_str().map_err(|e|Error::service_safe(e,PermissionDenied::new()))?;letvalue=header.strip_prefix(prefix).ok_or_else(||{Error::service_safe(\"invalidauthheaderformat\",PermissionDenied::new())})?;value.parse().map_err(|e|Error::service_safe(e,PermissionDenied::new()))}" -/) &&
  (Gen.PrivateServerSrc.hashes.lookup "fn body_arg" == some 9343581809471700023 /- "{D::deserialize(runtime,headers,body).map_err(|e|e.with_safe_param(\"param\",log_as))}" -/) &&
  (Gen.PrivateServerSrc.hashes.lookup "fn async_body_arg" == some 7407158389309622563 /- "{D::deserialize(runtime,headers,body).await.map_err(|e|e.with_safe_param(\"param\",log_as))}" -/)

theorem gen_private_server_source : gen_private_server_source_ok = true := by
  simp only [gen_private_server_source_ok, Gen.PrivateServerSrc.hashes, ↓List.lookup_cons_ite, ↓String.reduceEq, ↓reduceIte, beq_self_eq_true,
    Bool.and_self]

/-- the decoders: conjure-http/src/server/mod.rs and server/conjure.rs -/
def gen_decoder_source_ok : Bool :=
  (Gen.ServerModSrc.hashes.lookup "fn only_item" == some 5850790483636977620 /- "{letmutit=it.into_iter();letSome(item)=it.next()else{returnErr(Error::service_safe(\"expectedexactly1parameter\",InvalidArgument::new()).with_safe_param(\"actual\",0),);};letremaining=it.count();ifremaining>0{returnErr(Error::service_safe(\"expectedexactly1parameter\",InvalidArgument::new()).with_safe_param(\"actual\",remaining+1),);}Ok(item)}" -/) &&
  (Gen.ServerModSrc.hashes.lookup "fn optional_item" == some 9423778101433977114 /- "{letmutit=it.into_iter();letSome(item)=it.next()else{returnOk(None);};letremaining=it.count();ifremaining>0{returnErr(Error::service_safe(\"expectedatmost1parameter\",InvalidArgument::new()).with_safe_param(\"actual\",remaining+1),);}Ok(Some(item))}" -/) &&
  (Gen.ServerModSrc.hashes.lookup "DecodeParam<T> for FromDecoder<D,U>::decode" == some 1746800780449850455 /- "{D::decode(runtime,params).map(T::from)}" -/) &&
  (Gen.ServerModSrc.hashes.lookup "DecodeHeader<T> for FromDecoder<D,U>::decode" == some 1086523408316557427 /- "{D::decode(runtime,headers).map(T::from)}" -/) &&
  (Gen.ServerConjureSrc.hashes.lookup "DecodeHeader<T> for FromPlainDecoder::decode" == some 18347655562715653585 /- "{T::from_plain(super::only_item(headers)?.to_str().map_err(|e|Error::service(e,InvalidArgument::new()))?,).map_err(|e|Error::service(e,InvalidArgument::new()))}" -/) &&
  (Gen.ServerConjureSrc.hashes.lookup "DecodeParam<T> for FromPlainDecoder::decode" == some 7294129696322493103 /- "{T::from_plain(super::only_item(params)?.as_ref()).map_err(|e|Error::service(e,InvalidArgument::new()))}" -/) &&
  (Gen.ServerConjureSrc.hashes.lookup "DecodeHeader<Option<T>> for FromPlainOptionDecoder::decode" == some 8631590820879403900 /- "{letSome(header)=super::optional_item(headers)?else{returnOk(None);};letvalue=T::from_plain(header.to_str().map_err(|e|Error::service(e,InvalidArgument::new()))?,).map_err(|e|Error::service(e,InvalidArgument::new()))?;Ok(Some(value))}" -/) &&
  (Gen.ServerConjureSrc.hashes.lookup "DecodeParam<Option<T>> for FromPlainOptionDecoder::decode" == some 12535052271433438872 /- "{letSome(param)=super::optional_item(params)?else{returnOk(None);};letvalue=T::from_plain(param.as_ref()).map_err(|e|Error::service(e,InvalidArgument::new()))?;Ok(Some(value))}" -/) &&
  (Gen.ServerConjureSrc.hashes.lookup "DecodeParam<T> for FromPlainSeqDecoder<U>::decode" == some 16500004896592523549 /- "{params.into_iter().map(|s|{U::from_plain(s.as_ref()).map_err(|e|Error::service(e,InvalidArgument::new()))}).collect()}" -/) &&
  (Gen.ServerConjureSrc.hashes.lookup "DeserializeRequest<Option<T>,R> for OptionalRequestDeserializer::deserialize" == some 9217647599735272692 /- "{if!headers.contains_key(CONTENT_TYPE){returnOk(None);}<StdRequestDeserializerasDeserializeRequest<_,_>>::deserialize(runtime,headers,body)}" -/) &&
  (Gen.ServerConjureSrc.hashes.lookup "AsyncDeserializeRequest<Option<T>,R> for OptionalRequestDeserializer::deserialize" == some 12095283989625539718 /- "{if!headers.contains_key(CONTENT_TYPE){returnOk(None);}<StdRequestDeserializerasAsyncDeserializeRequest<_,_>>::deserialize(runtime,headers,body,).await}" -/) &&
  (Gen.ServerConjureSrc.hashes.lookup "BinaryRequestDeserializer::deserialize_inner" == some 16451867081583581789 /- "{ifheaders.get(CONTENT_TYPE)!=Some(&APPLICATION_OCTET_STREAM){returnErr(Error::service_safe(\"unexpectedContent-Type\",InvalidArgument::new(),));}Ok(body)}" -/)

theorem gen_decoder_source : gen_decoder_source_ok = true := by
  simp only [gen_decoder_source_ok, Gen.ServerModSrc.hashes, Gen.ServerConjureSrc.hashes, ↓List.lookup_cons_ite, ↓String.reduceEq, ↓reduceIte,
    beq_self_eq_true, Bool.and_self]

/-! #### which requests fail to decode: absent though required, repeated though single-valued, unparsable, not text -/

theorem C19_single_ok_iff (ext : Bytes → Bool) (i : Nat) (ty : PTy) (vals : List Bytes) :
    decodeParam ext i .one ty vals = .ok () ↔ ∃ v, vals = [v] ∧ parses ext ty v = true := by
  rcases vals with _ | ⟨v, _ | _⟩ <;> simp [decodeParam]

theorem C19_optional_ok_iff (ext : Bytes → Bool) (i : Nat) (ty : PTy) (vals : List Bytes) :
    decodeParam ext i .opt ty vals = .ok () ↔ vals = [] ∨ ∃ v, vals = [v] ∧ parses ext ty v = true := by
  rcases vals with _ | ⟨v, _ | _⟩ <;> simp [decodeParam]

theorem C19_seq_ok_iff (ext : Bytes → Bool) (i : Nat) (ty : PTy) (vals : List Bytes) :
    decodeParam ext i .seq ty vals = .ok () ↔ ∀ v ∈ vals, parses ext ty v = true := by
  simp [decodeParam]

theorem C19_header_ok_iff (ext : Bytes → Bool) (i : Nat) (ty : PTy) (vals : List Bytes) :
    (decodeHeader ext i .one ty vals = .ok () ↔ ∃ v, vals = [v] ∧ toStrOk v = true ∧ parses ext ty v = true) ∧
    (decodeHeader ext i .opt ty vals = .ok () ↔
      vals = [] ∨ ∃ v, vals = [v] ∧ toStrOk v = true ∧ parses ext ty v = true) := by
  rcases vals with _ | ⟨v, _ | _⟩ <;> simp [decodeHeader]
  -- left is the case of one value, alike for both decoders: it passes when it is text and parses
  cases toStrOk v <;> simp

theorem C19_auth_ok_iff (pfx : Bytes) (vals : List Bytes) :
    decodeAuth pfx vals = .ok () ↔
      ∃ v rest t, vals = v :: rest ∧ toStrOk v = true ∧ stripPrefix pfx v = some t ∧ Token.isValid t = true := by
  constructor
  · -- of the branches of `decodeAuth` only one answers `.ok ()`: a first value that is text, has the prefix, and
    -- leaves a valid token
    fun_cases decodeAuth pfx vals <;> rintro ⟨⟩
    next htext t hstrip hvalid => exact ⟨_, _, t, rfl, by simpa using htext, hstrip, hvalid⟩
  · rintro ⟨v, rest, t, rfl, h1, h2, h3⟩
    simp [decodeAuth, h1, h2, h3]

/-- If argument `a` is the first (in declaration order) that fails to decode, the outcome is that argument's error:
the handler is not invoked, the code is PERMISSION_DENIED for auth and INVALID_ARGUMENT otherwise, and for
path, query and header (and body) arguments the safe `param` entry is the declared (`log_as`) name. -/
theorem C19_first_failure (r : Request) (pre : List ArgSpec) (a : ArgSpec) (post : List ArgSpec) (e : Err)
    (hpre : ∀ k b, pre[k]? = some b → decodeArg r k b = .ok ())
    (ha : decodeArg r pre.length a = .error e) :
    (handleReq (pre ++ a :: post) r).error = some e ∧
    (e.code = if a.kind = .auth ∨ a.kind = .cookie then .permissionDenied else .invalidArgument) ∧
    (a.kind = .path ∨ a.kind = .query ∨ a.kind = .header ∨ a.kind = .body → e.param = some a.logName) ∧
    (a.kind = .auth ∨ a.kind = .cookie → e.param = none) := by
  have h2 := decodeArg_err ha
  obtain ⟨-, hp, hq, hh, hb, -⟩ := gen_param_names
  refine ⟨?_, h2.1, ?_, ?_⟩
  · rw [handleReq, run_append r pre 0 _ _ (decodes_zero.mpr hpre), run, Nat.zero_add, ha]
  all_goals intro hk; rw [h2.2.1]
  · rcases hk with hk | hk | hk | hk <;> simp [hk, reportedName, hp, hq, hh, hb]
  · rcases hk with hk | hk <;> simp [hk]

/-- conversely an error outcome always stems from the first argument that fails (its code is restated here; the
`param` facts of `C19_first_failure` follow by applying that theorem to the argument found) -/
theorem C19_error_is_first_failure (args : List ArgSpec) (r : Request) (e : Err)
    (h : (handleReq args r).error = some e) :
    ∃ k a, args[k]? = some a ∧ decodeArg r k a = .error e ∧
      (∀ k' b, k' < k → args[k']? = some b → decodeArg r k' b = .ok ()) ∧
      (e.code = if a.kind = .auth ∨ a.kind = .cookie then .permissionDenied else .invalidArgument) := by
  rcases run_eq r [] args 0 with ⟨-, ho⟩ | ⟨pre, a, post, e', rfl, hpre, ha, ho⟩ <;> rw [handleReq, ho] at h <;> cases h
  rw [Nat.zero_add] at ha
  refine ⟨pre.length, a, by simp, ha, fun k' b hk' hb => ?_, (decodeArg_err ha).1⟩
  rw [List.getElem?_append_left hk'] at hb
  exact decodes_zero.mp hpre k' b hb

/-- when every argument decodes no such error is produced and the handler runs — and only then -/
theorem C19_all_decode_iff (args : List ArgSpec) (r : Request) :
    (handleReq args r).error = none ↔ ∀ k a, args[k]? = some a → decodeArg r k a = .ok () := by
  rw [← decodes_zero]
  constructor
  · intro h
    rcases run_eq r [] args 0 with ⟨hd, -⟩ | ⟨_, _, _, _, -, -, -, ho⟩
    · exact hd
    · rw [handleReq, ho] at h; cases h
  · intro hd
    rw [handleReq, run_decodes [] hd]

/-! #### non-vacuity: a header argument whose Rust identifier differs from its declared name -/
def exHeader : ArgSpec :=
  { kind := .header, dec := .one, ty := .int, name := [120], logName := [115, 97, 102, 101, 72], ident := [115, 95, 104], safe := true }
def exReq (v : List (Bytes × Bytes)) : Request :=
  { pathParams := [], query := none, headers := v, ct := .absent, payload := .ok, dbl := [] }

example : ((handleReq [exHeader] (exReq [])).error.map (·.param)) = some (some [115, 97, 102, 101, 72]) := by decide +kernel
example : ((handleReq [exHeader] (exReq [([120], [52, 50])])).error.isNone) = true := by decide +kernel
example : ((handleReq [exHeader] (exReq [([120], [52, 50]), ([120], [52, 50])])).error.map (·.actual)) = some (some 2) := by decide +kernel

end ConjureVerif.C19

namespace ConjureVerif.C19G
open ConjureVerif ConjureVerif.Emit

/-- the name the expanded handler reports for an argument (`param`, and the key in `SafeParams`): `log_as` when the
attribute has one, the Rust identifier otherwise (conjure-macros, `ArgType::log_as`) -/
def reportedName : SAttr → Option Emit.Bytes
  | .path _ i l | .query _ _ i l | .header _ _ i l | .body _ i l => some (l.getD (strBytes i))
  | _ => none

/-- **declared names**: whatever the argument is called — camelCase, a Rust keyword, anything the identifier rules
rewrite — the generated server trait makes the handler report it under its declared Conjure name -/
theorem C19_generated_param_name (defs : Defs) (f : Nat) (kw : List String) (a : Arg) :
    reportedName (serverArg defs f kw a) = some a.name := by
  unfold serverArg
  cases a.kind <;> simp [reportedName, logAs_getD]

end ConjureVerif.C19G

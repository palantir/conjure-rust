import ConjureVerif.Lemmas.DoubleOps
import ConjureVerif.Gen.ObjPrivateSrc
import ConjureVerif.Gen.DoubleKeySrc
import ConjureVerif.Lemmas.Pins
/-
C14 — Generated types with doubles have a lawful total order, equality and hash.

The model (Model/DoubleOps.lean) mirrors `conjure_object::private::DoubleOps` one `impl` per combinator:
`f64Ops` (OrderedFloat: NaN = NaN, NaN greatest, -0 = +0 — the abstraction D = nan | num k with k the
order-preserving integer image of the bits is computed by the harness from the *real* f64), `optOps`, `vecOps`,
`mapOps` (a BTreeMap iterated in key order, entries compared as `(k, DoubleOpsWrapper(v))` tuples), and what
`#[educe(PartialEq, Eq, PartialOrd, Ord, Hash)]` derives for generated objects (`prodOps`, fields in order) and
unions (`sumOps`, variants in order, discriminant hashed first).  `keyOps` is any leaf with an ordinary derived order.
-/
namespace ConjureVerif.C14
open ConjureVerif ConjureVerif.DoubleOps

/-! #### instantiation: the source text of the `DoubleOps` impls and of `DoubleKey`'s traits that the model transcribes -/
theorem gen_double_ops_source :
    Gen.ObjPrivateSrc.hashes.lookup "DoubleOps for f64::cmp" = some 3317416179049685566 /- "{OrderedFloat(*self).cmp(&OrderedFloat(*other))}" -/ ∧
    Gen.ObjPrivateSrc.hashes.lookup "DoubleOps for f64::eq" = some 5109566910599504853 /- "{OrderedFloat(*self)==OrderedFloat(*other)}" -/ ∧
    Gen.ObjPrivateSrc.hashes.lookup "DoubleOps for f64::hash" = some 889762740993273617 /- "{OrderedFloat(*self).hash(hasher)}" -/ ∧
    Gen.ObjPrivateSrc.hashes.lookup "DoubleOps for Option<T>::cmp" = some 17150339065665689753 /- "{match(self,other){(Some(a),Some(b))=>a.cmp(b),(Some(_),None)=>Ordering::Greater,(None,Some(_))=>Ordering::Less,(None,None)=>Ordering::Equal,}}" -/ ∧
    Gen.ObjPrivateSrc.hashes.lookup "DoubleOps for Option<T>::eq" = some 121393038219773530 /- "{match(self,other){(Some(a),Some(b))=>a.eq(b),(Some(_),None)|(None,Some(_))=>false,(None,None)=>true,}}" -/ ∧
    Gen.ObjPrivateSrc.hashes.lookup "DoubleOps for Option<T>::hash" = some 2486034766904643322 /- "{mem::discriminant(self).hash(hasher);ifletSome(v)=self{v.hash(hasher);}}" -/ ∧
    Gen.ObjPrivateSrc.hashes.lookup "DoubleOps for Vec<T>::cmp" = some 9841606281591576733 /- "{letl=usize::min(self.len(),other.len());letlhs=&self[..l];letrhs=&other[..l];foriin0..l{matchlhs[i].cmp(&rhs[i]){Ordering::Equal=>{}v=>returnv,}}self.len().cmp(&other.len())}" -/ ∧
    Gen.ObjPrivateSrc.hashes.lookup "DoubleOps for Vec<T>::eq" = some 1580944185000726326 /- "{ifself.len()!=other.len(){returnfalse;}foriin0..self.len(){if!self[i].eq(&other[i]){returnfalse;}}true}" -/ ∧
    Gen.ObjPrivateSrc.hashes.lookup "DoubleOps for Vec<T>::hash" = some 18400198134951643287 /- "{self.len().hash(hasher);forvinself{v.hash(hasher);}}" -/ ∧
    Gen.ObjPrivateSrc.hashes.lookup "DoubleOps for BTreeMap<K,V>::cmp" = some 444387017552035516 /- "{self.iter().map(|(k,v)|(k,DoubleOpsWrapper(v))).cmp(other.iter().map(|(k,v)|(k,DoubleOpsWrapper(v))))}" -/ ∧
    Gen.ObjPrivateSrc.hashes.lookup "DoubleOps for BTreeMap<K,V>::eq" = some 4668468042148120976 /- "{self.iter().map(|(k,v)|(k,DoubleOpsWrapper(v))).eq(other.iter().map(|(k,v)|(k,DoubleOpsWrapper(v))))}" -/ ∧
    Gen.ObjPrivateSrc.hashes.lookup "DoubleOps for BTreeMap<K,V>::hash" = some 12991002785900783232 /- "{self.len().hash(hasher);for(k,v)inself{(k,DoubleOpsWrapper(v)).hash(hasher);}}" -/ ∧
    Gen.ObjPrivateSrc.hashes.lookup "PartialEq for DoubleOpsWrapper<'_,T>::eq" = some 9686786530693945152 /- "{self.0.eq(other.0)}" -/ ∧
    Gen.ObjPrivateSrc.hashes.lookup "PartialOrd for DoubleOpsWrapper<'_,T>::partial_cmp" = some 12065986277121618337 /- "{Some(self.cmp(other))}" -/ ∧
    Gen.ObjPrivateSrc.hashes.lookup "Ord for DoubleOpsWrapper<'_,T>::cmp" = some 1144844009117513414 /- "{self.0.cmp(other.0)}" -/ ∧
    Gen.ObjPrivateSrc.hashes.lookup "Hash for DoubleOpsWrapper<'_,T>::hash" = some 408432958307591732 /- "{self.0.hash(state);}" -/ := by
  simp only [Gen.ObjPrivateSrc.hashes, ↓List.lookup_cons_ite, ↓String.reduceEq, ↓reduceIte, and_self]

theorem gen_double_key_source :
    Gen.DoubleKeySrc.hashes.lookup "PartialOrd for DoubleKey::partial_cmp" = some 12065986277121618337 /- "{Some(self.cmp(other))}" -/ ∧
    Gen.DoubleKeySrc.hashes.lookup "PartialEq for DoubleKey::eq" = some 1839315297590627093 /- "{OrderedFloat(self.0)==OrderedFloat(other.0)}" -/ ∧
    Gen.DoubleKeySrc.hashes.lookup "Ord for DoubleKey::cmp" = some 14281156873136647414 /- "{OrderedFloat(self.0).cmp(&OrderedFloat(other.0))}" -/ ∧
    Gen.DoubleKeySrc.hashes.lookup "Hash for DoubleKey::hash" = some 16633384470721426037 /- "{OrderedFloat(self.0).hash(state)}" -/ := by
  simp only [Gen.DoubleKeySrc.hashes, ↓List.lookup_cons_ite, ↓String.reduceEq, ↓reduceIte, and_self]

/-! #### the main theorem: every shape built from doubles, ordinary keys, optionals, lists, maps, objects
and unions — nested to any depth — has lawful operations -/
theorem C14_lawful : ∀ s : Shape, Lawful s.ops := by
  intro s
  induction s with
  | f => exact lawful_f64
  | k => exact lawful_key
  | opt s ih => exact lawful_opt ih
  | vec s ih => exact lawful_vec ih
  | map s ih => exact lawful_map ih
  | prod a b iha ihb => exact lawful_prod iha ihb
  | sum a b iha ihb => exact lawful_sum iha ihb

/-- equality is reflexive at every shape — in particular NaN equals NaN at any position -/
theorem C14_eq_refl (s : Shape) (a : s.carrier) : s.ops.eq a a = true := (C14_lawful s).eq_refl a

/-- comparison returns Equal exactly for equal values -/
theorem C14_cmp_eq_iff (s : Shape) (a b : s.carrier) : s.ops.cmp a b = .eq ↔ s.ops.eq a b = true :=
  (C14_lawful s).eq_iff a b

/-- swapping the arguments swaps the answer -/
theorem C14_antisymm (s : Shape) (a b : s.carrier) : s.ops.cmp b a = (s.ops.cmp a b).swap :=
  (C14_lawful s).cmp_swap a b

/-- transitivity of `<` and of `≤` -/
theorem C14_lt_trans (s : Shape) (a b c : s.carrier) (h1 : s.ops.cmp a b = .lt) (h2 : s.ops.cmp b c = .lt) :
    s.ops.cmp a c = .lt := (C14_lawful s).lt_trans a b c h1 h2

theorem C14_le_trans (s : Shape) (a b c : s.carrier) (h1 : s.ops.cmp a b ≠ .gt) (h2 : s.ops.cmp b c ≠ .gt) :
    s.ops.cmp a c ≠ .gt := (C14_lawful s).le_trans a b c h1 h2

/-- equal values compare alike against everything (equality is a congruence for the order) -/
theorem C14_eq_congr (s : Shape) (a b c : s.carrier) (h : s.ops.eq a b = true) : s.ops.cmp a c = s.ops.cmp b c :=
  (C14_lawful s).eq_congr a b c (((C14_lawful s).eq_iff a b).mpr h)

/-- equality is symmetric and transitive -/
theorem C14_eq_symm (s : Shape) (a b : s.carrier) (h : s.ops.eq a b = true) : s.ops.eq b a = true := by
  have L := C14_lawful s
  rw [← L.eq_iff] at h ⊢
  rw [L.cmp_swap a b, h]; rfl

theorem C14_eq_trans (s : Shape) (a b c : s.carrier) (h1 : s.ops.eq a b = true) (h2 : s.ops.eq b c = true) :
    s.ops.eq a c = true := by
  have L := C14_lawful s
  rw [← L.eq_iff] at h1 h2 ⊢
  rw [L.eq_congr a b c h1]; exact h2

/-- equal values hash equally: the word sequences fed to *any* `Hasher` coincide -/
theorem C14_hash_eq (s : Shape) (a b : s.carrier) (h : s.ops.eq a b = true) : s.ops.hash a = s.ops.hash b :=
  (C14_lawful s).hash_eq a b h

/-- NaN is the greatest double and equals itself (`D` has one value, image 0, for -0 and +0) -/
theorem C14_nan_greatest (x : D) : f64Ops.cmp x .nan ≠ .gt ∧ f64Ops.eq .nan .nan = true ∧
    (∀ k, f64Ops.cmp (.num k) .nan = .lt) := by
  refine ⟨?_, rfl, fun _ => rfl⟩
  cases x <;> nofun

/-- an absent optional is below every present one, never "equal" -/
theorem C14_none_lt_some (s : Shape) (a : s.carrier) : (optOps s.ops).cmp none (some a) = .lt ∧
    (optOps s.ops).eq none (some a) = false := ⟨rfl, rfl⟩

/-- a list is below every proper extension of it, never "equal" -/
theorem C14_prefix_lt (s : Shape) (l : List s.carrier) (x : s.carrier) (r : List s.carrier) :
    (vecOps s.ops).cmp l (l ++ x :: r) = .lt := by
  induction l with
  | nil => rfl
  | cons y ys ih => simp only [vecOps, List.cons_append, vecCmp, (C14_lawful s).cmp_refl]; exact ih

/-! #### consequence: a value inserted into a set / used as a map key is always found again -/

/-- the value just inserted is found, whatever the set held before -/
theorem C14_inserted_is_found (s : Shape) (set : List s.carrier) (x : s.carrier) :
    sfind s.ops x (sins s.ops x set) = true := by
  rw [sfind_sins (C14_lawful s), (C14_lawful s).cmp_refl]; exact Bool.or_true _

/-- and so is every *equal* value (a NaN with another payload, -0 for +0) -/
theorem C14_equal_is_found (s : Shape) (set : List s.carrier) (x x' : s.carrier) (h : s.ops.eq x x' = true) :
    sfind s.ops x' (sins s.ops x set) = true := by
  rw [sfind_sins (C14_lawful s), (C14_cmp_eq_iff s x' x).mpr (C14_eq_symm s x x' h)]; exact Bool.or_true _

/-- later insertions never hide an element that was found before -/
theorem C14_insert_keeps_found (s : Shape) (set : List s.carrier) (hs : Sorted s.ops set) (x z : s.carrier)
    (h : sfind s.ops z set = true) : sfind s.ops z (sins s.ops x set) = true := by
  rw [sfind_sins (C14_lawful s), h]; rfl

/-- every element of any insertion sequence is found in the resulting set -/
theorem C14_all_found (s : Shape) (l : List s.carrier) (z : s.carrier) (hz : z ∈ l) :
    sfind s.ops z (buildSet s.ops l) = true := by
  rw [buildSet, sfind_foldl_sins (C14_lawful s)]
  exact List.any_eq_true.mpr ⟨z, hz, by rw [(C14_lawful s).cmp_refl]; rfl⟩

/-- the set built by any insertion sequence is strictly sorted -/
theorem C14_set_sorted (s : Shape) (l : List s.carrier) : Sorted s.ops (buildSet s.ops l) :=
  foldl_sins_sorted (C14_lawful s) l [] .nil

/-! #### non-vacuity: concrete values with NaN, ±0, absent/empty and prefixes -/
example : (Shape.vec (.opt .f)).ops.eq [some .nan, none] [some .nan, none] = true := by decide
example : (Shape.vec .f).ops.cmp [.num 1] [.num 1, .nan] = .lt := by decide
example : (Shape.prod .f (.opt .f)).ops.cmp (.nan, none) (.nan, some (.num 0)) = .lt := by decide
example : (Shape.map .f).ops.hash [(1, .nan)] = [.len 1, .key 1, .dbl .nan] := by decide
example : sfind (Shape.f).ops .nan (buildSet (Shape.f).ops [.num 3, .nan, .num (-2), .nan]) = true := by decide
example : buildSet f64Ops [.num 3, .nan, .num (-2), .nan] = [.num (-2), .num 3, .nan] := by decide

end ConjureVerif.C14

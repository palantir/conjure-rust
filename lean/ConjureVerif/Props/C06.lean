import ConjureVerif.Lemmas.Body
/-
C06 — Servers accept a request body only if it is exactly one complete valid document.

`parse` (the encoding's typed deserializer applied to a complete buffer, with its verdict on the
unread remainder) is universally quantified: the theorems hold whatever the document syntax is.
-/
namespace ConjureVerif.C06
open ConjureVerif ConjureVerif.Body

/-- all chunks are data, and their concatenation -/
def AllOk (cs : List Chunk) (body : List Nat) : Prop := ∃ bss, cs = oks bss ∧ body = bss.flatten

/-- **chunking independence of reassembly**: two error-free chunkings of the same bytes (empty chunks
    included) read to the same result, for any limit -/
theorem C06_chunking_independent (limit : Option Nat) (bss bss' : List (List Nat))
    (h : bss.flatten = bss'.flatten) : readBody limit (oks bss) = readBody limit (oks bss') := by
  rw [readBody_oks, readBody_oks, h]

/-- **size limit**: an error-free body is rejected as too large exactly when its total length exceeds
    the limit — wherever the chunk boundaries fall -/
theorem C06_limit (l : Nat) (bss : List (List Nat)) :
    (readBody (some l) (oks bss) = .tooLarge ↔ bss.flatten.length > l) ∧
    (readBody (some l) (oks bss) = .ok bss.flatten ↔ bss.flatten.length ≤ l) := by
  rw [readBody_oks, within_some, gt_iff_lt, ← Nat.not_le]
  by_cases h : bss.flatten.length ≤ l <;> simp [h, -List.length_flatten]

/-- **accept-iff**: the handler runs with `v` exactly when a registered encoding was selected by
    Content-Type, no stream item is an error, the whole body fits the limit, and the body is one
    valid document of the parameter type followed only by insignificant bytes -/
theorem C06_accept_iff (encOk : Bool) (limit : Nat) (cs : List Chunk) (parse : List Nat → Parse) (v : Nat) :
    stdDeserialize encOk limit cs parse = .handler (some v) ↔
      (encOk = true ∧ ∃ body, AllOk cs body ∧ body.length ≤ limit ∧ parse body = .value v true) := by
  cases encOk with
  | false => simp [stdDeserialize]
  | true =>
    have read : ∀ body, readBody (some limit) cs = .ok body ↔ AllOk cs body ∧ body.length ≤ limit := by
      intro body; rw [readBody_ok_iff, within_some, decide_eq_true_eq]; rfl
    -- through `read` the right side says that some `body` is read and parses to `v`; then by what is read
    simp only [stdDeserialize, true_and, ← and_assoc, ← read]
    cases readBody (some limit) cs <;> simp [ofParse_handler]

/-- **otherwise**: in every other case the handler is not invoked and the result is INVALID_ARGUMENT
    or an error that the stream itself produced — never anything else -/
theorem C06_reject (encOk : Bool) (limit : Nat) (cs : List Chunk) (parse : List Nat → Parse) :
    (∃ v, stdDeserialize encOk limit cs parse = .handler (some v)) ∨
    stdDeserialize encOk limit cs parse = .invalidArgument ∨
    (∃ e, stdDeserialize encOk limit cs parse = .streamError e ∧ Chunk.err e ∈ cs) := by
  cases encOk with
  | false => exact .inr (.inl rfl)
  | true =>
    rcases chunks_split cs with ⟨bss, rfl⟩ | ⟨pre, e, post, rfl⟩
    · rw [std_oks]
      split
      · fun_cases Outcome.ofParse (parse _)
        · exact .inl ⟨_, rfl⟩
        · exact .inr (.inl rfl)
        · exact .inr (.inl rfl)
      · exact .inr (.inl rfl)
    · rw [std_err]
      split
      · exact .inr (.inr ⟨e, rfl, by simp⟩)
      · exact .inr (.inl rfl)

/-- whenever the parser's verdict on the whole body is not "a value, nothing left over" (`parse ≠ value _ true`; that
    trailing data, truncation, malformed documents and unknown fields get that verdict is the parser's part and not
    modelled), the handler is not invoked -/
theorem C06_trailing_data_rejected (limit : Nat) (cs : List Chunk) (parse : List Nat → Parse)
    (body : List Nat) (h : AllOk cs body) (hp : ∀ v, parse body ≠ .value v true) :
    ∀ v, stdDeserialize true limit cs parse ≠ .handler v := by
  intro v hv
  obtain ⟨bss, rfl, rfl⟩ := h
  rw [std_oks] at hv
  split at hv
  · obtain ⟨w, _, hw⟩ := (ofParse_handler _ _).mp hv
    exact hp w hw
  · cases hv

/-- **optional body**: without a Content-Type the body is absent whatever the stream holds, stream errors
    included; with one, it is treated exactly like a required body -/
theorem C06_optional (hasCT encOk : Bool) (limit : Nat) (cs : List Chunk) (parse : List Nat → Parse) :
    (hasCT = false → optionalDeserialize hasCT encOk limit cs parse = .handler none) ∧
    (hasCT = true → optionalDeserialize hasCT encOk limit cs parse = stdDeserialize encOk limit cs parse) := by
  constructor <;> intro h <;> simp [optionalDeserialize, h]

/-! #### non-vacuity: "[1]" split as "[", "", "1]" under a limit of 3 bytes, then of 2; then with an error after "[" -/
example : stdDeserialize true 3 [.ok [91], .ok [], .ok [49, 93]] (fun b => if b = [91, 49, 93] then .value 7 true else .invalid)
    = .handler (some 7) := by decide
example : stdDeserialize true 2 [.ok [91], .ok [], .ok [49, 93]] (fun _ => .value 7 true) = .invalidArgument := by
  decide
example : stdDeserialize true 3 [.ok [91], .err 5, .ok [49, 93]] (fun _ => .value 7 true) = .streamError 5 := by
  decide

end ConjureVerif.C06

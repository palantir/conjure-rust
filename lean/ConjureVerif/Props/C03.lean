import ConjureVerif.Lemmas.Idents
import ConjureVerif.Lemmas.GenOrder
import ConjureVerif.Lemmas.TypePath
import ConjureVerif.Lemmas.Boxing
import ConjureVerif.Lemmas.RustType
import ConjureVerif.Gen.CodegenObjectsSrc
import ConjureVerif.Gen.CodegenUnionsSrc
import ConjureVerif.Gen.CodegenAliasesSrc
import ConjureVerif.Gen.CodegenLibSrc
import ConjureVerif.Gen.CodegenContextSrc
import ConjureVerif.Lemmas.Pins
/-
C03 — Code generation succeeds and its output compiles for every valid definition.

No Lean model can express rustc.  What is logic here are the closed-form rules of the statement: the identifier
escaping ("Rust keywords used as field, argument, endpoint, variant or package names"); "types spread over nested
packages" — which module a type is written to (never one that a sub-package of its package occupies) and the relative
path by which generated code names a type of another package (it resolves, from any package to any package); which
references are boxed (no type holds itself by value); the Rust type of a field, with `DoubleKey` wherever an order is
needed, the fields that get the `DoubleOps` methods, and what the builder's setters take.  These are proved for every
name, every pair of packages and every type; what remains rustc's verdict (attribute details, other derives, accessor
signatures, endpoint bodies) is exercised, not proved: seeded IR documents are generated and the emitted module trees
compiled by rustc against the runtime crates.
-/
namespace ConjureVerif.C03
open ConjureVerif ConjureVerif.Idents

/-- every strict or reserved keyword of editions 2018/2021 (other than `Self`, which snake_case cannot produce) is in
the list `ident_name` escapes -/
theorem gen_keywords_covered : Gen.Keywords.extractOk = true ∧
    (keywords.all (fun k => k == "Self" || Gen.Keywords.escaped.contains k)) = true := by decide +kernel

/-- no escaped name turns into another keyword by the escape itself -/
theorem gen_escape_leaves_keywords :
    (Gen.Keywords.escaped.all (fun e => !keywords.contains (e ++ "_"))) = true ∧
    (Gen.Keywords.typeEscaped.all (fun e => !keywords.contains (e ++ "_"))) = true := by
  constructor <;> exact List.all_eq_true.2 fun e _ => by rw [contains_append_eq_false keywords_no_underscore]; rfl

theorem gen_self_escaped : Gen.Keywords.typeEscaped.contains "Self" = true := by decide +kernel

/-- **no field, argument, endpoint or module identifier the generator emits is a Rust keyword**, whatever the
Conjure name (given that snake_case output is never `Self`, which contains an upper-case letter) -/
theorem C03_ident_never_keyword (snake : String) (hs : snake ≠ "Self") :
    keywords.contains (identName Gen.Keywords.escaped snake) = false := by
  have := escape_avoids (s := snake) keywords_no_underscore
    (fun h => by simpa [hs] using List.all_eq_true.mp gen_keywords_covered.2 snake h)
  simpa [identName] using this

/-- **no type identifier the generator emits is `Self`**, the only keyword that is an UpperCamelCase word (that
camel-casing yields no lower-case keyword is not modelled) -/
theorem C03_type_ident_never_self (camel : String) :
    typeName Gen.Keywords.typeEscaped camel ≠ "Self" := by
  have := escape_avoids (kw := ["Self"]) (s := camel)
    (fun k hk => by     -- `Self` does not end in `_`, on characters
      rw [List.mem_singleton.mp hk, String.endsWith_eq_isSuffixOf, String.toList_ofList, String.toList_ofList]; rfl)
    (fun h => by rw [List.mem_singleton.mp h]; exact List.contains_iff_mem.mp gen_self_escaped)
  simpa [typeName] using this

/-! #### types spread over nested packages -/
section Modules
open ConjureVerif.GenOrder ConjureVerif.TypePath

/-- the functions of the generator the two models below transcribe -/
theorem gen_module_sources :
    Gen.CodegenLibSrc.hashes.lookup "ModuleTrie::insert" = some 6051593475104134925 /- "{matchmodule_path.split_first(){Some((first,rest))=>self.submodules.entry(first.clone()).or_insert_with(ModuleTrie::new).insert(rest,type_),None=>self.types.push(type_),}}" -/ ∧
    Gen.CodegenLibSrc.hashes.lookup "ModuleTrie::render" = some 13277887319379923158 /- "{fs::create_dir_all(dir).with_context(||format!(\"errorcreatingdirectory{}\",dir.display()))?;fortype_in&self.types{self.write_module(&dir.join(format!(\"{}.rs\",self.type_module_name(type_))),&type_.contents,)?;}for(name,module)in&self.submodules{module.render(&dir.join(name),false)?;}letroot=self.create_root_module(lib_root);letfile_name=iflib_root{\"lib.rs\"}else{\"mod.rs\"};self.write_module(&dir.join(file_name),&root)?;Ok(())}" -/ ∧
    Gen.CodegenLibSrc.hashes.lookup "ModuleTrie::type_module_name" = some 15234807820239733828 /- "{letmutname=type_.module_name.clone();whileself.submodules.contains_key(&name){name.push('_');}name}" -/ ∧
    Gen.CodegenLibSrc.hashes.lookup "ModuleTrie::create_root_module" = some 2135525283162995021 /- "{letattrs=iflib_root{quote!{#![allow(warnings)]}}else{quote!{}};letuses=self.types.iter().map(|m|{letmodule_name=self.type_module_name(m).parse::<TokenStream>().unwrap();lettype_names=m.type_names.iter().map(|n|n.parse::<TokenStream>().unwrap());quote!{#[doc(inline)]pubuseself::#module_name::{#(#type_names),*};}});lettype_mods=self.types.iter().map(|m|{letmodule_name=self.type_module_name(m).parse::<TokenStream>().unwrap();quote!{pubmod#module_name;}});letsub_mods=self.submodules.keys().map(|v|{letmodule_name=v.parse::<TokenStream>().unwrap();quote!{pubmod#module_name;}});quote!{#attrs#(#uses)*#(#type_mods)*#(#sub_mods)*}}" -/ ∧
    Gen.CodegenContextSrc.hashes.lookup "Context::module_path" = some 11370191910348346280 /- "{letraw=self.raw_module_path(name.package());ifraw.starts_with(&self.strip_prefix){raw[self.strip_prefix.len()..].to_vec()}else{raw}}" -/ ∧
    Gen.CodegenContextSrc.hashes.lookup "Context::raw_module_path" = some 4019254541348680121 /- "{package.split('.').map(|s|self.ident_name(s)).collect()}" -/ ∧
    Gen.CodegenContextSrc.hashes.lookup "Context::type_path" = some 12465151843134716927 /- "{letthis_module_path=self.module_path(this_type);letother_module_path=self.module_path(other_type);letshared_prefix=this_module_path.iter().zip(&other_module_path).take_while(|(a,b)|a==b).count();letmutcomponents=vec![quote!(super)];for_in0..this_module_path.len()-shared_prefix{components.push(quote!(super));}forcomponentin&other_module_path[shared_prefix..]{components.push(component.parse().unwrap());}letother_type_name=self.type_name(other_type.name());quote!(#(#components::)*#other_type_name)}" -/ := by
  simp only [Gen.CodegenLibSrc.hashes, Gen.CodegenContextSrc.hashes, ↓List.lookup_cons_ite, ↓String.reduceEq,
    ↓reduceIte, and_self]

/-- **a type's module never shares its name with a sub-package's module**: in every module of the generated tree,
whatever types and sub-packages it holds, the file a type is written to (and the `pub mod` that declares it) goes by
a name none of the sub-package modules beside it has — a type `Inner` next to a package `….inner` is written to
`inner_`; and a name that collides with nothing is kept as it is -/
theorem C03_type_module_free (types : List (String × String)) (subs : Subs) (ty : String × String) (_h : ty ∈ types) :
    typeModule (Subs.names subs) ty.1 ∉ Subs.names subs ∧
    (ty.1 ∉ Subs.names subs → typeModule (Subs.names subs) ty.1 = ty.1) ∧
    (∃ k, typeModule (Subs.names subs) ty.1 = ty.1 ++ us k) :=
  ⟨typeModule_not_mem _ _, typeModule_eq _ _, typeModule_form _ _⟩

/-- two types of one package stay in two modules, given that their module names differ by more than trailing
underscores (they are snake-cased type names, or a keyword followed by one underscore) -/
theorem C03_type_modules_distinct (subs : List String) (t1 t2 : String) (h : core t1 ≠ core t2) :
    typeModule subs t1 ≠ typeModule subs t2 := fun he =>
  h (by rw [← core_typeModule subs t1, ← core_typeModule subs t2, he])

/-- **the path generated code uses for a type of another package resolves to it**: for any two module paths (any
packages, any `stripPrefix`), read from the referring type's own module the emitted `super::…::name::Type` leads to
the module of the other package, where the type is re-exported; and it holds no more `super`s than there are modules
above the referring type -/
theorem C03_type_path_resolves (strip thisPkg otherPkg : List String) (m typeName : String) :
    resolve (modulePath strip thisPkg ++ [m]) (typePath (modulePath strip thisPkg) (modulePath strip otherPkg) typeName) =
      some (modulePath strip otherPkg ++ [typeName]) ∧
    ((typePath (modulePath strip thisPkg) (modulePath strip otherPkg) typeName).filter (· == .super)).length ≤
      (modulePath strip thisPkg).length + 1 :=
  ⟨typePath_resolves _ _ _ _, typePath_supers _ _ _⟩

example : typeModule ["inner", "other"] "inner" = "inner_" ∧ typeModule ["inner", "inner_"] "inner" = "inner__" ∧
    typeModule ["inner"] "leaf" = "leaf" := by decide +kernel

example : showPath (typePath (modulePath ["com", "palantir"] ["com", "palantir", "a", "b"])
    (modulePath ["com", "palantir"] ["com", "palantir", "a", "c", "d"]) "Leaf") = "super::super::c::d::Leaf" := by
  decide +kernel
end Modules

/-! #### types recursive through optionals and collections -/
section Recursion
open ConjureVerif.Boxing

/-- the functions that decide what is held by value and what behind a `Box`, the three places that call them, and
`is_double` / `rust_type_inner`, which the model `RustType` of the section on doubles below transcribes -/
theorem gen_boxing_sources :
    Gen.CodegenContextSrc.hashes.lookup "Context::is_double" = some 3262876863850417085 /- "{matchdef{Type::Primitive(PrimitiveType::Double)=>true,Type::Optional(def)=>self.is_double(def.item_type()),Type::List(def)=>self.is_double(def.item_type()),Type::Map(def)=>self.is_double(def.value_type()),Type::Primitive(_)|Type::Set(_)|Type::Reference(_)=>false,Type::External(def)=>self.is_double(def.fallback()),}}" -/ ∧
    Gen.CodegenContextSrc.hashes.lookup "Context::needs_box" = some 6212673282279784620 /- "{matchdef{Type::Primitive(_)=>false,Type::Optional(def)=>self.needs_box(def.item_type()),Type::List(_)|Type::Set(_)|Type::Map(_)=>false,Type::Reference(def)=>self.ref_needs_box(def),Type::External(def)=>self.needs_box(def.fallback()),}}" -/ ∧
    Gen.CodegenContextSrc.hashes.lookup "Context::ref_needs_box" = some 16980039490533604179 /- "{letctx=&self.types[name];match&ctx.def{TypeDefinition::Alias(def)=>self.needs_box(def.alias()),TypeDefinition::Enum(_)=>false,TypeDefinition::Object(_)|TypeDefinition::Union(_)=>true,}}" -/ ∧
    Gen.CodegenContextSrc.hashes.lookup "Context::rust_type_inner" = some 759703829858553174 /- "{matchdef{Type::Primitive(def)=>match*def{PrimitiveType::String=>self.string_ident(this_type),PrimitiveType::Datetime=>quote!(conjure_object::DateTime<conjure_object::Utc>),PrimitiveType::Integer=>quote!(i32),PrimitiveType::Double=>{ifkey{quote!(conjure_object::DoubleKey)}else{quote!(f64)}}PrimitiveType::Safelong=>quote!(conjure_object::SafeLong),PrimitiveType::Binary=>quote!(conjure_object::Bytes),PrimitiveType::Any=>quote!(conjure_object::Any),PrimitiveType::Boolean=>quote!(bool),PrimitiveType::Uuid=>quote!(conjure_object::Uuid),PrimitiveType::Rid=>quote!(conjure_object::ResourceIdentifier),PrimitiveType::Bearertoken=>quote!(conjure_object::BearerToken),},Type::Optional(def)=>{letoption=self.option_ident(this_type);letitem=self.rust_type_inner(this_type,def.item_type(),key);quote!(#option<#item>)}Type::List(def)=>{letvec=self.vec_ident(this_type);letitem=self.rust_type_inner(this_type,def.item_type(),key);quote!(#vec<#item>)}Type::Set(def)=>{letitem=self.rust_type_inner(this_type,def.item_type(),true);quote!(std::collections::BTreeSet<#item>)}Type::Map(def)=>{letvalue=self.rust_type_inner(this_type,def.value_type(),key);letkey=self.rust_type_inner(this_type,def.key_type(),true);quote!(std::collections::BTreeMap<#key,#value>)}Type::Reference(def)=>self.type_path(this_type,def),Type::External(def)=>self.rust_type_inner(this_type,def.fallback(),key),}}" -/ ∧
    Gen.CodegenContextSrc.hashes.lookup "Context::boxed_rust_type" = some 6237657713517485795 /- "{matchdef{Type::Optional(def)=>{letoption=self.option_ident(this_type);letitem=self.boxed_rust_type(this_type,def.item_type());quote!(#option<#item>)}Type::Reference(def)=>self.ref_boxed_rust_type(this_type,def),Type::External(def)=>self.boxed_rust_type(this_type,def.fallback()),def=>self.rust_type(this_type,def),}}" -/ ∧
    Gen.CodegenContextSrc.hashes.lookup "Context::ref_boxed_rust_type" = some 15402356831597770747 /- "{letctx=&self.types[name];letneeds_box=match&ctx.def{TypeDefinition::Alias(def)=>self.needs_box(def.alias()),TypeDefinition::Enum(_)=>false,TypeDefinition::Object(_)=>match&self.types[this_type].def{TypeDefinition::Union(_)=>false,_=>true,},TypeDefinition::Union(_)=>true,};letunboxed=self.type_path(this_type,name);ifneeds_box{letbox_=self.box_ident(this_type);quote!(#box_<#unboxed>)}else{unboxed}}" -/ ∧
    Gen.CodegenObjectsSrc.hashes.lookup "fn generate" = some 12972639228190881497 /- "{letdocs=ctx.docs(def.docs());letname=ctx.type_name(def.type_name().name());letmuttype_attrs=vec![quote!(#[serde(crate=\"conjure_object::serde\")])];letmutderives=vec![\"Debug\",\"Clone\",\"conjure_object::serde::Serialize\",\"conjure_object::serde::Deserialize\",];ifdef.fields().iter().any(|v|ctx.has_double(v.type_())){derives.push(\"conjure_object::private::Educe\");type_attrs.push(quote!(#[educe(PartialEq,Eq,PartialOrd,Ord,Hash)]));}else{derives.push(\"PartialEq\");derives.push(\"Eq\");derives.push(\"PartialOrd\");derives.push(\"Ord\");derives.push(\"Hash\");}ifdef.fields().iter().all(|v|ctx.is_copy(v.type_())){derives.push(\"Copy\");}letderives=derives.iter().map(|s|s.parse::<TokenStream>().unwrap());type_attrs.insert(0,quote!(#[derive(#(#derives),*)]));letfield_attrs=def.fields().iter().map(|s|{letbuilder_attr=field_builder_attr(ctx,def,s);letserde_attr=serde_field_attr(ctx,def,s);leteduce_attr=ifctx.is_double(s.type_()){quote!{#[educe(PartialEq(method(conjure_object::private::DoubleOps::eq)),Ord(method(conjure_object::private::DoubleOps::cmp)),Hash(method(conjure_object::private::DoubleOps::hash)),)]}}else{quote!()};quote!{#builder_attr#serde_attr#educe_attr}});letfields=def.fields().iter().map(|f|ctx.field_name(f.field_name()));letboxed_types=&def.fields().iter().map(|s|ctx.boxed_rust_type(def.type_name(),s.type_())).collect::<Vec<_>>();letconstructor=generate_constructor(ctx,def);letaccessors=def.fields().iter().map(|s|{letdocs=ctx.docs(s.docs());letdeprecated=ctx.deprecated(s.deprecated());letname=ctx.field_name(s.field_name());letret_type=ctx.borrowed_rust_type(def.type_name(),s.type_());letborrow=ctx.borrow_rust_type(quote!(self.#name),s.type_());quote!(#docs#deprecated#[inline]pubfn#name(&self)->#ret_type{#borrow})});quote!{#docs#(#type_attrs)*#[conjure_object::private::staged_builder::staged_builder]#[builder(crate=conjure_object::private::staged_builder,update,inline,)]pubstruct#name{#(#field_attrs#fields:#boxed_types,)*}impl#name{#constructor#(#accessors)*}}}" -/ ∧
    Gen.CodegenUnionsSrc.hashes.lookup "fn generate_enum" = some 8449921773393489155 /- "{letname=ctx.type_name(def.type_name().name());letmuttype_attrs=vec![];letmutderives=vec![\"Debug\",\"Clone\"];ifdef.union_().iter().any(|v|ctx.has_double(v.type_())){derives.push(\"conjure_object::private::Educe\");type_attrs.push(quote!(#[educe(PartialEq,Eq,PartialOrd,Ord,Hash)]));}else{derives.push(\"PartialEq\");derives.push(\"Eq\");derives.push(\"PartialOrd\");derives.push(\"Ord\");derives.push(\"Hash\");}letderives=derives.iter().map(|s|s.parse::<TokenStream>().unwrap());type_attrs.insert(0,quote!(#[derive(#(#derives),*)]));letdocs=def.union_().iter().map(|f|ctx.docs(f.docs()));letdeprecated=def.union_().iter().map(|f|ctx.deprecated(f.deprecated()));letvariants=&variants(ctx,def);lettypes=&def.union_().iter().map(|f|{letattr=ifctx.is_double(f.type_()){quote!{#[educe(PartialEq(method(conjure_object::private::DoubleOps::eq)),Ord(method(conjure_object::private::DoubleOps::cmp)),Hash(method(conjure_object::private::DoubleOps::hash)),)]}}else{quote!()};letty=ctx.boxed_rust_type(def.type_name(),f.type_());quote!(#attr#ty)}).collect::<Vec<_>>();letunknown=unknown(ctx,def);letunknown_variant=ifctx.exhaustive(){quote!()}else{quote!{#[doc=\"Anunknownvariant.\"]#unknown(#unknown),}};quote!{#(#type_attrs)*pubenum#name{#(#docs#deprecated#variants(#types),)*#unknown_variant}}}" -/ ∧
    Gen.CodegenAliasesSrc.hashes.lookup "fn generate" = some 9976687671691517758 /- "{letname=ctx.type_name(def.type_name().name());letalias=ctx.rust_type(def.type_name(),def.alias());letresult=ctx.result_ident(def.type_name());letdocs=ctx.docs(def.docs());letmuttype_attrs=vec![quote!(#[serde(crate=\"conjure_object::serde\",transparent)])];letmutfield_attrs=vec![];letmutderives=vec![\"Debug\",\"Clone\",\"conjure_object::serde::Deserialize\",\"conjure_object::serde::Serialize\",];ifctx.is_copy(def.alias()){derives.push(\"Copy\");}ifctx.is_double(def.alias()){derives.push(\"conjure_object::private::Educe\");type_attrs.push(quote!(#[educe(PartialEq,Eq,PartialOrd,Ord,Hash)]));field_attrs.push(quote!{#[educe(PartialEq(method(conjure_object::private::DoubleOps::eq)),Ord(method(conjure_object::private::DoubleOps::cmp)),Hash(method(conjure_object::private::DoubleOps::hash)),)]})}else{derives.push(\"PartialEq\");derives.push(\"Eq\");derives.push(\"PartialOrd\");derives.push(\"Ord\");derives.push(\"Hash\");}ifctx.is_default(def.alias()){derives.push(\"Default\");}letderives=derives.iter().map(|s|s.parse::<TokenStream>().unwrap());type_attrs.insert(0,quote!(#[derive(#(#derives),*)]));letdisplay=ifctx.is_display(def.alias()){quote!{implstd::fmt::Displayfor#name{fnfmt(&self,fmt:&mutstd::fmt::Formatter<'_>)->std::fmt::Result{std::fmt::Display::fmt(&self.0,fmt)}}}}else{quote!()};letplain=ifctx.is_plain(def.alias()){quote!{implconjure_object::Plainfor#name{fnfmt(&self,fmt:&mutstd::fmt::Formatter<'_>)->std::fmt::Result{conjure_object::Plain::fmt(&self.0,fmt)}}implconjure_object::FromPlainfor#name{typeErr=<#aliasasconjure_object::FromPlain>::Err;#[inline]fnfrom_plain(s:&str)->#result<#name,Self::Err>{conjure_object::FromPlain::from_plain(s).map(#name)}}}}else{quote!()};letfrom_iterator=matchctx.is_from_iter(def.type_name(),def.alias()){Some(item)=>quote!{implstd::iter::FromIterator<#item>for#name{fnfrom_iter<T>(iter:T)->SelfwhereT:std::iter::IntoIterator<Item=#item>,{#name(std::iter::FromIterator::from_iter(iter))}}},None=>quote!(),};letdealiased_type=ctx.rust_type(def.type_name(),ctx.dealiased_type(def.alias()));quote!{#docs#(#type_attrs)*pubstruct#name(#(#field_attrs)*pub#alias);#display#plain#from_iteratorimplstd::convert::From<#dealiased_type>for#name{#[inline]fnfrom(v:#dealiased_type)->Self{#name(std::convert::From::from(v))}}implstd::ops::Dereffor#name{typeTarget=#alias;#[inline]fnderef(&self)->&#alias{&self.0}}implstd::ops::DerefMutfor#name{#[inline]fnderef_mut(&mutself)->&mut#alias{&mutself.0}}}}" -/ := by
  simp only [Gen.CodegenContextSrc.hashes, Gen.CodegenObjectsSrc.hashes, Gen.CodegenUnionsSrc.hashes,
    Gen.CodegenAliasesSrc.hashes, ↓List.lookup_cons_ite, ↓String.reduceEq, ↓reduceIte, and_self]

/-- **no generated type holds itself by value**: for every set of definitions without an alias cycle (a Conjure
compiler rule), however the types refer to each other — directly, through optionals, through aliases and aliases of
aliases, through imported types' fallbacks, objects inside unions and unions inside objects — following the "holds by
value" relation of the generated Rust types (a field or variant not wrapped in `Box`, the wrapped type of an alias;
collections keep their elements on the heap) never leads back to where it started.  So every generated struct and
enum has a finite size, which is what rustc demands of recursive definitions. -/
theorem C03_no_type_holds_itself (defs : Defs) (depth : Nat → Nat) (D : Nat) (wf : AliasWF defs depth D)
    (fuel : Nat) (hfuel : D < fuel) (n : Nat) : ¬ Holds defs fuel n n := by
  intro h
  have := holds_rank wf hfuel h
  omega

/-- with enough fuel (more than the longest alias chain) the boxing decision no longer depends on it (that the
bounded recursion then satisfies the equation of the generator's unbounded `ref_needs_box` is `Boxing.needsBoxN_eq`) -/
theorem C03_boxing_fuel_irrelevant (defs : Defs) (depth : Nat → Nat) (D : Nat) (wf : AliasWF defs depth D)
    (n f g : Nat) (hf : D ≤ f) (hg : D ≤ g) : needsBoxN defs f n = needsBoxN defs g n :=
  needsBoxN_stable wf f g n fun _ _ => by have := wf.bound n; omega

/-- `Node { next: optional<Node>, alias: NodeAlias }`, `NodeAlias = optional<Node>`, `Tree = union { leaf: Leaf,
node: list<Tree>, maybe: optional<Tree> }`, `Leaf { t: optional<Tree> }`: the hypotheses hold and each object field
and union variant gets the box the generator gives it -/
def exDefs : Defs :=
  [.object [.optional (.ref 0), .ref 1], .alias (.optional (.ref 0)),
   .union [.ref 3, .coll, .optional (.ref 2)], .object [.optional (.ref 2)]]

example : AliasWF exDefs (fun _ => 0) 1 := by
  constructor
  · intro n; omega
  · intro n t hn m hm t' hm'
    -- the one alias wraps `optional<Node>`, and `Node` is no alias
    match n, hn with
    | 1, hn =>
      cases hn
      cases List.mem_singleton.mp hm
      cases hm'
    | 0, hn | 2, hn | 3, hn | _ + 4, hn => cases hn

example : (exDefs.map (fun d => match d with
    | .object fs => fs.map (boxFlags exDefs 5 false)
    | .union fs => fs.map (boxFlags exDefs 5 true)
    | _ => [])) = [[[true], [true]], [], [[false], [], [true]], [[true]]] := by decide
end Recursion

/-! #### doubles at every legal position -/
section Doubles
open ConjureVerif.RustType

/-- **whatever sits below a set item or a map key is totally ordered**: for every Conjure type, the Rust type the
generator writes (`rust_type_inner`, pinned in `gen_boxing_sources`) puts `DoubleKey` — never the unordered `f64` —
wherever a double occurs below a set item or a map key, through optionals, lists, the values of maps and the fallbacks
of imported types; so every `BTreeSet<T>` and `BTreeMap<K, _>` it names, at any depth, has the `Ord` it needs -/
theorem C03_set_items_and_keys_are_ordered (t : CTy) :
    usable (rustType false t) = true ∧ ordOk (rustType true t) = true :=
  ⟨usable_rustType false t, (ordOk_doubleOpsOk_rustType true t).1⟩

/-- **each field is compared by something that exists**: a field the generator gives the `DoubleOps` methods
(`is_double`) has a Rust type they are implemented for; every other field has a Rust type with a total order, equality
and hash of its own: what the `Educe` / `derive` lines written for objects, unions and aliases need of each field's
type (that they compile is rustc's verdict) -/
theorem C03_double_methods_fit (t : CTy) :
    (isDouble t = true → doubleOpsOk (rustType false t) = true) ∧
    (isDouble t = false → ordOk (rustType false t) = true) := by
  simp [ordOk_doubleOpsOk_rustType]

/-- the functions that write a field's `#[builder(...)]` attribute -/
theorem gen_builder_sources :
    Gen.CodegenContextSrc.hashes.lookup "Context::builder_config" = some 9363333221388607104 /- "{matchdef{Type::Primitive(def)=>matchdef{PrimitiveType::String|PrimitiveType::Binary=>BuilderConfig::Into,PrimitiveType::Any=>BuilderConfig::Custom{type_:quote!(implconjure_object::serde::Serialize),convert:quote!(|v|conjure_object::Any::new(v).expect(\"valuefailedtoserialize\")),},_=>BuilderConfig::Normal,},Type::Optional(def)=>{ifself.needs_box(def.item_type()){letinto=self.into_ident(this_type);letoption=self.option_ident(this_type);letitem_type=self.rust_type(this_type,def.item_type());letbox_=self.box_ident(this_type);BuilderConfig::Custom{type_:quote!(impl#into<#option<#item_type>>),convert:quote!(|v|v.into().map(#box_::new)),}}else{BuilderConfig::Into}}Type::List(def)=>BuilderConfig::List{item:self.builder_item_config(this_type,def.item_type(),false),},Type::Set(def)=>BuilderConfig::Set{item:self.builder_item_config(this_type,def.item_type(),true),},Type::Map(def)=>BuilderConfig::Map{key:self.builder_item_config(this_type,def.key_type(),true),value:self.builder_item_config(this_type,def.value_type(),false),},Type::Reference(def)=>{ifself.ref_needs_box(def){letbox_=self.box_ident(this_type);BuilderConfig::Custom{type_:self.type_path(this_type,def),convert:quote!(#box_::new),}}else{BuilderConfig::Normal}}Type::External(def)=>self.builder_config(this_type,def.fallback()),}}" -/ ∧
    Gen.CodegenContextSrc.hashes.lookup "Context::builder_item_config" = some 14454168095124291473 /- "{matchdef{Type::Primitive(primitive)=>matchprimitive{PrimitiveType::String=>BuilderItemConfig::Into{type_:self.string_ident(this_type),},PrimitiveType::Binary=>BuilderItemConfig::Into{type_:quote!(conjure_object::Bytes),},PrimitiveType::Any=>BuilderItemConfig::Custom{type_:quote!(implconjure_object::serde::Serialize),convert:quote!(|v|conjure_object::Any::new(v).expect(\"valuefailedtoserialize\")),},_=>BuilderItemConfig::Normal{type_:self.rust_type_inner(this_type,def,key),},},Type::Optional(def)=>{letoption=self.option_ident(this_type);letitem_type=self.rust_type_inner(this_type,def.item_type(),key);BuilderItemConfig::Into{type_:quote!(#option<#item_type>),}}Type::List(def)=>{letinto_iterator=self.into_iterator_ident(this_type);letitem_type=self.rust_type_inner(this_type,def.item_type(),key);BuilderItemConfig::Custom{type_:quote!(impl#into_iterator<Item=#item_type>),convert:quote!(|v|v.into_iter().collect()),}}Type::Set(def)=>{letinto_iterator=self.into_iterator_ident(this_type);letitem_type=self.rust_type_inner(this_type,def.item_type(),true);BuilderItemConfig::Custom{type_:quote!(impl#into_iterator<Item=#item_type>),convert:quote!(|v|v.into_iter().collect()),}}Type::Map(def)=>{letinto_iterator=self.into_iterator_ident(this_type);letkey_type=self.rust_type_inner(this_type,def.key_type(),true);letvalue_type=self.rust_type_inner(this_type,def.value_type(),key);BuilderItemConfig::Custom{type_:quote!(impl#into_iterator<Item=(#key_type,#value_type)>),convert:quote!(|v|v.into_iter().collect()),}}Type::Reference(def)=>BuilderItemConfig::Normal{type_:self.type_path(this_type,def),},Type::External(def)=>self.builder_item_config(this_type,def.fallback(),key),}}" -/ ∧
    Gen.CodegenObjectsSrc.hashes.lookup "fn field_builder_attr" = some 6517229059603477348 /- "{letmutinner=matchctx.builder_config(def.type_name(),field.type_()){BuilderConfig::Normal=>quote!(),BuilderConfig::Into=>quote!(into),BuilderConfig::Custom{type_,convert}=>{quote!(custom(type=#type_,convert=#convert))}BuilderConfig::List{item}=>{letitem=builder_item_attr(item);quote!(list(item(#item)))}BuilderConfig::Set{item}=>{letitem=builder_item_attr(item);quote!(set(item(#item)))}BuilderConfig::Map{key,value}=>{letkey=builder_item_attr(key);letvalue=builder_item_attr(value);quote!(map(key(#key),value(#value)))}};if!ctx.is_required(field.type_()){inner=quote!(default,#inner);}ifinner.is_empty(){quote!()}else{quote!(#[builder(#inner)])}}" -/ ∧
    Gen.CodegenObjectsSrc.hashes.lookup "fn builder_item_attr" = some 7670467204189237290 /- "{matchconfig{BuilderItemConfig::Normal{type_}=>quote!(type=#type_),BuilderItemConfig::Into{type_}=>quote!(type=#type_,into),BuilderItemConfig::Custom{type_,convert}=>{quote!(custom(type=#type_,convert=#convert))}}}" -/ := by
  simp only [Gen.CodegenContextSrc.hashes, Gen.CodegenObjectsSrc.hashes, ↓List.lookup_cons_ite, ↓String.reduceEq,
    ↓reduceIte, and_self]

/-- **what a collection field's setters take is what the field holds**: for every Conjure type, the element type the
staged builder's `push_` / `insert_` / `extend_` setters are declared with (`builder_config`, `builder_item_config`:
plain, `into`, `impl Serialize`, or an iterator that is collected) is the element type of the field's Rust type — in
value positions and in key positions (set items, map keys, and what lies below them) alike -/
theorem C03_builder_items_fit (t : CTy) :
    fieldFits (builderField t) (rustType false t) = true ∧
    (∀ key, fits (builderItem key t) (rustType key t) = true) :=
  ⟨builderField_fits t, fun key => builderItem_fits key t⟩

example : renderField (builderField (.set (.map (.prim .string) (.prim .double)))) = "set:Iter<(String,DoubleKey)>" := by
  decide +kernel

/-- the rule as it was before D15 was repaired fails on `set<map<string, double>>`: a set of something without an order -/
theorem C03_old_rule_witness :
    usable (rustTypeOld false (.set (.map (.prim .string) (.prim .double)))) = false := by decide

example : render (rustType false (.set (.list (.map (.prim .string) (.optional (.prim .double)))))) =
    "BTreeSet<Vec<BTreeMap<String,Option<DoubleKey>>>>" := by decide +kernel
example : render (rustType false (.map (.prim .double) (.list (.prim .double)))) = "BTreeMap<DoubleKey,Vec<f64>>" := by
  decide +kernel
end Doubles

example : identName Gen.Keywords.escaped "type" = "type_" ∧ identName Gen.Keywords.escaped "field_name" = "field_name" := by
  decide +kernel

end ConjureVerif.C03

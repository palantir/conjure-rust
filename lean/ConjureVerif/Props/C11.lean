import ConjureVerif.Lemmas.Negotiate
/-
C11 — Response encoding honours Accept; request decoding honours Content-Type.

The specification below (`Best`, `Permitted`) is declarative — it does not mention sorting, `find`,
reversal or `max_by`; the theorems relate the model of the code's sort-and-select to it.
-/
namespace ConjureVerif.C11
open ConjureVerif ConjureVerif.Negotiate

/-- ranges in effect: no Accept header means `*/*` with quality 1 -/
def rangesOf (rs : List Range) : List Range :=
  if rs.isEmpty then [{ ty := 0, subty := 0, suffix := 0, np := 0, q := 1000, idx := 0 }] else rs

/-- `r` is the range that governs encoding `e`: it matches `e`, and no matching range is more specific
    (ties between equally specific ranges: higher quality, then earlier position) -/
def Best (rs : List Range) (e : Enc) (r : Range) : Prop :=
  r ∈ rs ∧ accepts r e = true ∧ ∀ r' ∈ rs, accepts r' e = true → before r r'

/-- the Accept header permits `e`: some range matches and the governing one has non-zero quality -/
def Permitted (rs : List Range) (e : Enc) : Prop := ∃ r, Best rs e r ∧ r.q ≠ 0

theorem best_key_unique {rs : List Range} {e : Enc} {r r' : Range} (h : Best rs e r) (h' : Best rs e r') :
    r.q = r'.q ∧ r.idx = r'.idx :=
  (before_antisymm (h.2.2 r' h'.1 h'.2.1) (h'.2.2 r h.1 h.2.1)).2.2

theorem candidate_eq_some_iff (rs : List Range) (e : Enc) (k : Nat × Nat) :
    candidate (sortRanges rs) e = some k ↔ ∃ r, Best rs e r ∧ r.q ≠ 0 ∧ k = (r.q, r.idx) := by
  have hmem {r} : r ∈ sortRanges rs ↔ r ∈ rs := (sortRanges_perm rs).mem_iff
  unfold candidate
  cases hf : (sortRanges rs).find? (fun r => accepts r e) with
  | none =>
    refine iff_of_false nofun ?_
    rintro ⟨r, ⟨hr, ha, _⟩, _⟩
    simpa [ha] using List.find?_eq_none.mp hf r (hmem.mpr hr)
  | some r' =>
    obtain ⟨h1, h2, h3⟩ := find_sorted_dominates _ _ (pairwise_sortRanges rs) r' hf
    have hb' : Best rs e r' := ⟨hmem.mp h1, h2, fun x hx => h3 x (hmem.mpr hx)⟩
    show (if r'.q ≠ 0 then some (r'.q, r'.idx) else none) = some k ↔ _
    constructor
    · intro h
      split at h
      next hq => exact ⟨r', hb', hq, (Option.some.inj h).symm⟩
      next => cases h
    · rintro ⟨r, hb, hq, rfl⟩
      have := best_key_unique hb hb'
      rw [← this.1, ← this.2, if_pos hq]

/-- the candidate list: one entry `(position, (quality, index))` per permitted registered encoding,
    in decreasing order of registration position -/
def cands (rs : List Range) (es : List Enc) : List (Nat × (Nat × Nat)) :=
  ((es.zipIdx).reverse).filterMap (fun (e, i) => (candidate (sortRanges (rangesOf rs)) e).map (fun k => (i, k)))

theorem mem_cands (rs : List Range) (es : List Enc) (i : Nat) (k : Nat × Nat) :
    (i, k) ∈ cands rs es ↔ ∃ e r, es[i]? = some e ∧ Best (rangesOf rs) e r ∧ r.q ≠ 0 ∧ k = (r.q, r.idx) := by
  simp only [cands, List.mem_filterMap, List.mem_reverse, Option.map_eq_some_iff, candidate_eq_some_iff]
  constructor
  · rintro ⟨⟨e, _⟩, hm, _, ⟨r, hr⟩, heq⟩
    obtain ⟨rfl, rfl⟩ := Prod.mk.inj heq
    exact ⟨e, r, List.mem_zipIdx_iff_getElem?.mp hm, hr⟩
  · rintro ⟨e, r, he, hr⟩
    exact ⟨(e, i), List.mem_zipIdx_iff_getElem?.mpr he, k, ⟨r, hr⟩, rfl⟩

theorem cands_decreasing (rs : List Range) (es : List Enc) :
    (cands rs es).Pairwise (fun a b => a.1 > b.1) := by
  unfold cands
  apply List.Pairwise.filterMap (R := fun (a b : Enc × Nat) => a.2 > b.2)
  · intro a a' hab b hb b' hb'
    obtain ⟨e, i⟩ := a; obtain ⟨e', i'⟩ := a'
    simp only [Option.map_eq_some_iff] at hb hb'
    obtain ⟨_, _, rfl⟩ := hb; obtain ⟨_, _, rfl⟩ := hb'
    exact hab
  · rw [List.pairwise_reverse]
    have h1 : (List.map Prod.snd es.zipIdx).Pairwise (· < ·) := by
      rw [List.zipIdx_map_snd]; exact List.pairwise_lt_range'
    exact List.pairwise_map.mp h1

theorem choose_eq (rs : List Range) (es : List Enc) :
    choose rs es = (maxByLast (fun c => c.2) (cands rs es)).map (·.1) := rfl

theorem choose_eq_some {rs : List Range} {es : List Enc} {i : Nat} (h : choose rs es = some i) :
    ∃ k, LastMax (·.2) (cands rs es) (i, k) := by
  obtain ⟨⟨_, k⟩, hm, rfl⟩ := Option.map_eq_some_iff.mp (choose_eq rs es ▸ h)
  exact ⟨k, maxByLast_spec _ _ _ hm⟩

/-- **sound**: the chosen encoding is registered and permitted by the Accept header -/
theorem C11_sound (rs : List Range) (es : List Enc) (i : Nat) (h : choose rs es = some i) :
    ∃ e, es[i]? = some e ∧ Permitted (rangesOf rs) e := by
  obtain ⟨k, hk⟩ := choose_eq_some h
  obtain ⟨e, r, he, hb, hq, _⟩ := (mem_cands rs es i k).mp hk.mem
  exact ⟨e, he, r, hb, hq⟩

/-- **complete**: an encoding is chosen whenever some registered encoding is permitted -/
theorem C11_complete (rs : List Range) (es : List Enc) (j : Nat) (e : Enc) (he : es[j]? = some e)
    (hp : Permitted (rangesOf rs) e) : choose rs es ≠ none := by
  obtain ⟨r, hb, hq⟩ := hp
  have hm : (j, (r.q, r.idx)) ∈ cands rs es := (mem_cands rs es j _).mpr ⟨e, r, he, hb, hq, rfl⟩
  intro hn
  rw [choose_eq, Option.map_eq_none_iff, maxByLast_none] at hn
  cases hn ▸ hm

/-- **optimal**: no permitted registered encoding has strictly higher quality than the chosen one;
    among equal qualities the range listed first wins; among equal range positions the encoding
    registered first wins -/
theorem C11_optimal (rs : List Range) (es : List Enc) (i : Nat) (h : choose rs es = some i)
    (j : Nat) (e : Enc) (he : es[j]? = some e) (r : Range) (hb : Best (rangesOf rs) e r) (hq : r.q ≠ 0) :
    ∃ ei ri, es[i]? = some ei ∧ Best (rangesOf rs) ei ri ∧
      (r.q < ri.q ∨ (r.q = ri.q ∧ (ri.idx < r.idx ∨ (ri.idx = r.idx ∧ i ≤ j)))) := by
  obtain ⟨k, hk⟩ := choose_eq_some h
  obtain ⟨ei, ri, hei, hbi, _, rfl⟩ := (mem_cands rs es i k).mp hk.mem
  have hj : (j, (r.q, r.idx)) ∈ cands rs es := (mem_cands rs es j _).mpr ⟨e, r, he, hb, hq, rfl⟩
  -- the chosen key is at least as good as that of `(j, _)`; what is left is the tie
  refine ⟨ei, ri, hei, hbi, (hk.1 _ hj).imp_right ?_⟩
  rintro ⟨hq, hle⟩
  refine ⟨hq, (Nat.lt_or_eq_of_le hle).imp_right fun hi => ⟨hi, ?_⟩⟩
  -- with equal keys, `(j, _)` is the chosen entry or comes before it, and positions decrease along the list
  exact (hk.eq_or_rel (cands_decreasing rs es) hj (.inr ⟨hq.symm, Nat.le_of_eq hi.symm⟩)).elim
    (fun e => Nat.le_of_eq (Prod.mk.inj e).1.symm) Nat.le_of_lt

/-- **no Accept header**: the first registered encoding is used -/
theorem C11_no_accept (es : List Enc) (e : Enc) (rest : List Enc) (hes : es = e :: rest) :
    choose [] es = some 0 := by
  -- every encoding is governed by `*/*;q=1`, index 0; optimality then forces position 0
  have hbest (e' : Enc) : Best (rangesOf []) e' { ty := 0, subty := 0, suffix := 0, np := 0, q := 1000, idx := 0 } :=
    ⟨List.mem_singleton.mpr rfl, rfl, fun r' hr' _ => List.mem_singleton.mp hr' ▸ before_refl _⟩
  have h0 : es[0]? = some e := by rw [hes]; rfl
  cases hc : choose [] es with
  | none => exact absurd hc (C11_complete [] es 0 e h0 ⟨_, hbest e, by decide⟩)
  | some i =>
    obtain ⟨ei, ri, _, hbi, hcmp⟩ := C11_optimal [] es i hc 0 e h0 _ (hbest e) (by decide)
    -- of the three ways to be optimal, a quality above that of `*/*;q=1` and a range index below 0 are out
    rcases hcmp with hlt | ⟨-, hlt | ⟨-, hle⟩⟩
    · exact absurd hlt ((best_key_unique hbi (hbest ei)).1 ▸ Nat.lt_irrefl _)
    · exact absurd hlt (Nat.not_lt_zero _)
    · exact congrArg some (Nat.le_zero.mp hle)

/-- **quality values**: `0`, `1`, `0.` with up to three decimals and `1.0`, `1.00`, `1.000` (every RFC 9110 qvalue
    but the bare `1.`) parse to the value in thousandths, and an absent q counts as 1 -/
theorem C11_parseQ_spec (d1 d2 d3 : Nat) (h1 : d1 ≤ 9) (h2 : d2 ≤ 9) (h3 : d3 ≤ 9) :
    quality (some [48]) = 0 ∧ quality (some [49]) = 1000 ∧
    quality (some [48, 46]) = 0 ∧
    quality (some [48, 46, 48 + d1]) = 100 * d1 ∧
    quality (some [48, 46, 48 + d1, 48 + d2]) = 100 * d1 + 10 * d2 ∧
    quality (some [48, 46, 48 + d1, 48 + d2, 48 + d3]) = 100 * d1 + 10 * d2 + d3 ∧
    quality (some [49, 46, 48]) = 1000 ∧ quality (some [49, 46, 48, 48]) = 1000 ∧
    quality (some [49, 46, 48, 48, 48]) = 1000 ∧ quality none = 1000 := by
  refine ⟨rfl, rfl, rfl, ?_, ?_, ?_, rfl, rfl, rfl, rfl⟩
  -- after `0.` the digit loop starts from weight 100 and value 0; what it returns is the right side up to commutativity
  · show (qDigits [48 + d1] 100 0).getD 1000 = _
    rw [qDigits_digit h1]; show 0 + d1 * 100 = _
    rw [Nat.zero_add, Nat.mul_comm]
  · show (qDigits [48 + d1, 48 + d2] 100 0).getD 1000 = _
    rw [qDigits_digit h1, qDigits_digit h2]; show 0 + d1 * 100 + d2 * 10 = _
    rw [Nat.zero_add, Nat.mul_comm d1, Nat.mul_comm d2]
  · show (qDigits [48 + d1, 48 + d2, 48 + d3] 100 0).getD 1000 = _
    rw [qDigits_digit h1, qDigits_digit h2, qDigits_digit h3]; show 0 + d1 * 100 + d2 * 10 + d3 * 1 = _
    rw [Nat.zero_add, Nat.mul_comm d1, Nat.mul_comm d2, Nat.mul_one]

/-- **Content-Type**: a request body is decoded with a registered encoding whose media type equals the
    header's type, subtype and suffix (parameters are not part of `Enc`), and with none exactly when no registered
    encoding has that media type -/
theorem C11_content_type (ct : Enc) (es : List Enc) :
    (∀ i, requestEncoding ct es = some i → es[i]? = some ct) ∧
    (requestEncoding ct es = none ↔ ct ∉ es) := by
  rw [requestEncoding_eq]
  constructor
  · intro i h
    obtain ⟨hi, hp, _⟩ := List.findIdx?_eq_some_iff_getElem.mp h
    rw [List.getElem?_eq_getElem hi, beq_iff_eq.mp hp]
  · rw [List.findIdx?_eq_none_iff]
    exact ⟨fun h hm => by simpa using h ct hm, fun h x hx => beq_eq_false_iff_ne.mpr fun e => h (e ▸ hx)⟩

/-! #### non-vacuity: `application/json;q=0.5, application/*;q=0.9, */*;q=0` against [json, smile] -/
example : choose
    [{ ty := 1, subty := 2, suffix := 0, np := 0, q := 500, idx := 0 },
     { ty := 1, subty := 0, suffix := 0, np := 0, q := 900, idx := 1 },
     { ty := 0, subty := 0, suffix := 0, np := 0, q := 0, idx := 2 }]
    [{ ty := 1, subty := 2, suffix := 0 }, { ty := 1, subty := 3, suffix := 0 }] = some 1 := by decide

end ConjureVerif.C11

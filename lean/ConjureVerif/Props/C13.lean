import ConjureVerif.Lemmas.AnyRoundTrip
import ConjureVerif.Lemmas.Base64Canon
import ConjureVerif.Gen.AnyDe
import ConjureVerif.Gen.AnyDeSrc
import ConjureVerif.Lemmas.Pins
/-
C13 — The dynamic `any` value is a lossless carrier of serializable data and of JSON.
-/
namespace ConjureVerif.C13
open ConjureVerif ConjureVerif.Data ConjureVerif.Wrap ConjureVerif.AnyM

theorem gen_extract_ok : Gen.AnyDe.extractOk = true := by decide

/-- the methods of serde's `Deserializer` trait -/
def allDeserializeMethods : List String :=
  ["deserialize_any", "deserialize_bool", "deserialize_i8", "deserialize_i16", "deserialize_i32", "deserialize_i64",
   "deserialize_i128", "deserialize_u8", "deserialize_u16", "deserialize_u32", "deserialize_u64", "deserialize_u128",
   "deserialize_f32", "deserialize_f64", "deserialize_char", "deserialize_str", "deserialize_string",
   "deserialize_bytes", "deserialize_byte_buf", "deserialize_option", "deserialize_unit", "deserialize_unit_struct",
   "deserialize_newtype_struct", "deserialize_seq", "deserialize_tuple", "deserialize_tuple_struct", "deserialize_map",
   "deserialize_struct", "deserialize_enum", "deserialize_identifier", "deserialize_ignored_any"]

/-- **every request is answered**: each `Deserializer` method of `Any` is either forwarded to
    `deserialize_any` or written by hand — none falls back to serde's "not supported" default; `i128` / `u128`
    are forwarded, newtype structs are written by hand and not forwarded -/
theorem gen_any_answers_every_method :
    allDeserializeMethods.all (fun m => Gen.AnyDe.forward.contains m || Gen.AnyDe.overridden.contains m) = true ∧
    Gen.AnyDe.forward.contains "deserialize_newtype_struct" = false ∧
    Gen.AnyDe.overridden.contains "deserialize_newtype_struct" = true ∧
    Gen.AnyDe.forward.contains "deserialize_i128" = true ∧ Gen.AnyDe.forward.contains "deserialize_u128" = true := by
  simp only [allDeserializeMethods, Gen.AnyDe.forward, Gen.AnyDe.overridden, List.all_cons, List.all_nil,
    List.contains_eq_mem, List.mem_cons, List.not_mem_nil, ↓String.reduceEq]
  decide

/-- the hand-written methods the model transcribes -/
theorem gen_any_overrides :
    Gen.AnyDeSrc.hashes.lookup "Deserializer<'de> for Any::deserialize_newtype_struct" = some 3688210282438561104 /- "{visitor.visit_newtype_struct(self)}" -/ ∧
    Gen.AnyDeSrc.hashes.lookup "Deserializer<'de> for Any::deserialize_option" = some 8920209099456636390 /- "{matchself.0{Inner::Null=>visitor.visit_none(),_=>visitor.visit_some(self),}}" -/ ∧
    Gen.AnyDeSrc.hashes.lookup "Deserializer<'de> for Any::deserialize_f64" = some 10636833808872630824 /- "{match&self.0{Inner::String(v)ifv==\"NaN\"=>visitor.visit_f64(f64::NAN),Inner::String(v)ifv==\"Infinity\"=>visitor.visit_f64(f64::INFINITY),Inner::String(v)ifv==\"-Infinity\"=>visitor.visit_f64(f64::NEG_INFINITY),_=>self.deserialize_any(visitor),}}" -/ ∧
    Gen.AnyDeSrc.hashes.lookup "Deserializer<'de> for Any::deserialize_bytes" = some 13822648245046909519 /- "{match&self.0{Inner::String(v)=>matchSTANDARD.decode(v){Ok(buf)=>visitor.visit_byte_buf(buf),Err(_)=>self.deserialize_any(visitor),},_=>self.deserialize_any(visitor),}}" -/ := by
  simp only [Gen.AnyDeSrc.hashes, ↓List.lookup_cons_ite, ↓String.reduceEq, ↓reduceIte, and_self]

/-- `KeyDeserializer`: bool and all numeric targets parse a string key; newtypes and enums stay in key mode -/
theorem gen_key_deserializer :
    Gen.AnyDe.keyParse = ["deserialize_bool=>visit_bool", "deserialize_i8=>visit_i8", "deserialize_i16=>visit_i16", "deserialize_i32=>visit_i32", "deserialize_i64=>visit_i64", "deserialize_i128=>visit_i128", "deserialize_u8=>visit_u8", "deserialize_u16=>visit_u16", "deserialize_u32=>visit_u32", "deserialize_u64=>visit_u64", "deserialize_u128=>visit_u128", "deserialize_f32=>visit_f32", "deserialize_f64=>visit_f64"] ∧
    Gen.AnyDe.keyCustom.contains "deserialize_newtype_struct={visitor.visit_newtype_struct(self)}" = true ∧
    Gen.AnyDe.keyCustom.contains "deserialize_enum={visitor.visit_enum(self)}" = true :=
  ⟨rfl, by
    simp only [Gen.AnyDe.keyCustom, List.contains_eq_mem, List.mem_cons, List.not_mem_nil, ↓String.reduceEq]
    decide⟩

/-- **lossless carrier**: converting any well-typed value (every integer width, floats incl. NaN,
    binary, options whose payload does not itself serialize to `null`, collections, all struct and variant kinds,
    maps with non-string keys) to the dynamic representation and back to its static type returns the original value -/
theorem C13_roundtrip (t : Ty) (v : Val) (h : HasTy t v) : ∃ a, ofVal t v = some a ∧ toVal t a = .ok v :=
  anyRt h

/-- **no two values share a dynamic value**: at one type, values that convert to the same `any` are equal -/
theorem C13_ofVal_injective (t : Ty) (v w : Val) (hv : HasTy t v) (hw : HasTy t w)
    (e : ofVal t v = ofVal t w) : v = w := by
  obtain ⟨a, ha, hr⟩ := anyRt hv
  exact Except.ok.inj (hr.symm.trans (of_eq_some (anyRt hw) a (e ▸ ha)))

/-- **same document**: serializing the dynamic value to JSON gives the same document as serializing
    the original (the model keeps insertion order; the real `BTreeMap` re-sorts members, which RFC 8259
    equality ignores) -/
theorem C13_json_same (t : Ty) (v : Val) (h : HasTy t v) (a : Any) (ha : ofVal t v = some a) :
    toJson a = ser .json t v := anyJson h a ha

/-- **JSON in, JSON out**: a JSON document in which no object names a member twice (`DistinctKeys`), parsed into
    the dynamic representation, re-serializes to the same document. A document that repeats a name is outside the
    claim: `AnyVisitor` inserts into a map, so of two members with one name only the later stays (`ofJsonM`) and
    the document written has one member fewer. -/
theorem C13_json_any_json (d : Doc) (hc : JsonClean d) (hd : DistinctKeys d) (a : Any) (ha : ofJson d = some a) :
    toJson a = some d := jsonAnyJson d hc hd a ha

/-- **view (coercions)**: viewed at a static type, a string held in an `any` is coerced: the three names
    `NaN` / `Infinity` / `-Infinity` to those doubles, the Base64 text of bytes to that binary, and as a map key
    `true` / `false`, the decimal text of an integer in range and the text of a uuid to those values (the coercions
    the JSON deserializer makes too) -/
theorem C13_view_coercions (w : IntW) (n : Int) (hw : w.contains n = true) (bs u : List Nat)
    (hb : Wrap.Bytes bs) (hl : u.length = 16) (hu : Wrap.Bytes u) :
    toVal .f64 (.str txtNaN) = .ok (.f64 .nan) ∧ toVal .f64 (.str txtInf) = .ok (.f64 .posInf) ∧
    toVal .f64 (.str txtNegInf) = .ok (.f64 .negInf) ∧
    toVal .bytes (.str (Base64.encode bs)) = .ok (.bytes bs) ∧
    toValKey .bool (.str txtTrue) = .ok (.bool true) ∧ toValKey .bool (.str txtFalse) = .ok (.bool false) ∧
    toValKey (.int w) (.str (Dec.showInt n)) = .ok (.int n) ∧
    toValKey .uuid (.str (Plain.uuidText u)) = .ok (.uuid u) := by
  refine ⟨by simp only [toVal]; rfl, by simp only [toVal]; rfl, by simp only [toVal]; rfl, ?_, rfl, rfl, ?_, ?_⟩
  · simp only [toVal, anyBytes, Base64.decode_encode bs hb, map_ok]
  · simp only [toValKey, Dec.parseRust_showInt, hw, if_true]
  · simp only [toValKey, Plain.uuidParse_uuidText u hl hu]

/-- **view (binary, the other direction)**: a string held in an `any` is viewed as binary only when it is the
    canonical padded Base64 of the bytes produced — the view never reads two different strings as the same
    binary, and what it produces are bytes -/
theorem C13_view_binary_is_canonical (s bs : List Nat) (h : anyBytes (.str s) = .ok bs) :
    Base64.encode bs = s ∧ Wrap.Bytes bs := by
  simp only [anyBytes] at h
  split at h
  · next hd => cases h; exact Base64.encode_decode s _ hd
  · cases h

example : anyBytes (.str [65, 81, 73, 61]) = .ok [1, 2] ∧ anyBytes (.str [65, 81, 74, 61]) = .error .unsupported :=
  ⟨rfl, rfl⟩

/-! #### non-vacuity: a 128-bit integer inside a newtype under an optional, and a bool-keyed map -/
example : HasTy (.option (.newtype (.int ⟨true, 128⟩))) (.some (.newtype (.int (-170141183460469231731687303715884105728)))) :=
  .some _ _ (.newtype _ _ (.int _ _ (by decide))) fun _ => nofun

example : ofVal (.map .bool .f64) (.map (.cons (.bool true) (.f64 .nan) .nil)) =
    some (.map (.cons (.bool true) (.f64 .nan) .nil)) := rfl

end ConjureVerif.C13

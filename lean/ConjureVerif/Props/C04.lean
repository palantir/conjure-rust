import ConjureVerif.Lemmas.EmitUri
import ConjureVerif.Gen.CodegenClientsSrc
import ConjureVerif.Gen.CodegenServersSrc
import ConjureVerif.Gen.CodegenHttpPathsSrc
import ConjureVerif.Gen.CodegenContextSrc
import ConjureVerif.Lemmas.Body
import ConjureVerif.Props.C19
import ConjureVerif.Lemmas.Pins
/-
C04 — A client call reaches the matching server handler with identical arguments.

Composition of: the client method's request assembly (Model/Call.lean: UriBuilder pushes per C07's model, header
and auth encoding), the router's hand-over, the endpoint handler (Model/Endpoint.lean, C19) and, on the way back,
the server's response serializers against the client's decode functions (Model/Body.lean, C18).  Values travel as
their PLAIN texts; C12 proves that text ↦ value is injective and `parse (text v) = v` for the PLAIN types (C15 for
safelong, C16 for resource identifiers and tokens), C01/C06/C18 for JSON bodies — here it is shown that the *texts* the
server decodes are exactly the texts the client was given, for every byte string.

The namespace `C04G` is about the generator (Model/Emit.lean), for every definition: the client method and the server
trait method it emits for an endpoint agree (return type, query, header, body and auth arguments), and what the client
method's calls produce is the request the first half starts from, for the argument descriptors the server trait
carries (Lemmas/EmitUri.lean).
-/
namespace ConjureVerif.C04
open ConjureVerif ConjureVerif.Endpoint ConjureVerif.Uri ConjureVerif.Call ConjureVerif.C07

def ofKind (k : Kind) (args : List CArg) : List CArg := args.filter (fun a => a.spec.kind == k)

/-- among the path parameters, among the query parameters and among the header parameters names are pairwise distinct
(the Conjure compiler guarantees it), and no header parameter is called `authorization` or `cookie` (header names are
lower-case in the model) -/
structure Distinct (args : List CArg) : Prop where
  path : ((ofKind .path args).map (·.spec.name)).Nodup
  query : ((ofKind .query args).map (·.spec.name)).Nodup
  header : ((ofKind .header args).map (·.spec.name)).Nodup
  reserved : ∀ a ∈ args, a.spec.kind = .header → a.spec.name ≠ authorization ∧ a.spec.name ≠ cookie

/-- **path parameters**: whatever byte string the caller passes for a path parameter the template names, the server's
`path_param` obtains exactly that one value from the request the endpoint is handed (`hr`); that the router accepts
the URI whatever the value holds, so that it cannot add segments or end the path, is `Call.route_uri` -/
theorem C04_path_arg (tmpl : List TSeg) (args : List CArg) (wf : CallWF tmpl args) (d : Distinct args)
    (a : CArg) (v : Endpoint.Bytes) (ha : a ∈ args) (hk : a.spec.kind = .path) (hv : a.texts = [v])
    (hin : TSeg.param a.spec.name ∈ tmpl)
    (ct : CtClass) (pl : Payload) (dbl : List (Endpoint.Bytes × Bool)) (r : Request)
    (hr : serverRequest Gen.Uri.component tmpl args ct pl dbl = some r) :
    Uri.pathParam ((r.pathParams.lookup a.spec.name).getD []) = [v] := by
  cases serverRequest_some gen_component_good wf hr
  simp only [routed_lookup _ args a.spec.name tmpl hin, Option.getD_some, pathText_of_mem ha hk d.path, hv, List.headD]
  exact C07_path_param_one_value _ gen_component_good v (wf.texts a ha v (by simp [hv]))

/-- **query parameters** (single, optional, list, set): the values the server finds under the argument's key are
exactly the supplied texts, in order — none for an absent optional or an empty collection -/
theorem C04_query_arg (tmpl : List TSeg) (args : List CArg) (wf : CallWF tmpl args) (d : Distinct args)
    (a : CArg) (ha : a ∈ args) (hk : a.spec.kind = .query)
    (ct : CtClass) (pl : Payload) (dbl : List (Endpoint.Bytes × Bool)) (r : Request)
    (hr : serverRequest Gen.Uri.component tmpl args ct pl dbl = some r) :
    queryVals r a.spec.name = a.texts := by
  cases serverRequest_some gen_component_good wf hr
  rw [query_values _ gen_component_good tmpl args wf _ rfl,
    filter_key_unique (·.spec.name) _ d.query a (List.mem_filter.mpr ⟨ha, by simp [hk]⟩), List.flatMap_singleton]

/-- **header parameters**: the server sees exactly the supplied header texts under the header's name -/
theorem C04_header_arg (tmpl : List TSeg) (args : List CArg) (wf : CallWF tmpl args) (d : Distinct args)
    (a : CArg) (ha : a ∈ args) (hk : a.spec.kind = .header)
    (ct : CtClass) (pl : Payload) (dbl : List (Endpoint.Bytes × Bool)) (r : Request)
    (hr : serverRequest Gen.Uri.component tmpl args ct pl dbl = some r) :
    headerVals r a.spec.name = a.texts := by
  cases serverRequest_some gen_component_good wf hr
  rw [headerVals, headerLines_vals args a.spec.name (d.reserved a ha hk).1 (d.reserved a ha hk).2,
    filter_key_unique (·.spec.name) _ d.header a (List.mem_filter.mpr ⟨ha, by simp [hk]⟩), List.flatMap_singleton]

/-- **a header value is refused or delivered unaltered**: a value with a byte `HeaderValue` cannot carry makes the
client refuse the call; if the call is not refused the server is handed exactly the byte string given, and its
decoder rejects that unless it is text (`to_str`) -/
theorem C04_header_refused_or_equal (tmpl : List TSeg) (args : List CArg) (wf : CallWF tmpl args) (d : Distinct args)
    (a : CArg) (v : Endpoint.Bytes) (ha : a ∈ args) (hk : a.spec.kind = .header) (hv : a.texts = [v])
    (ct : CtClass) (pl : Payload) (dbl : List (Endpoint.Bytes × Bool)) :
    (headerValueOk v = false → serverRequest Gen.Uri.component tmpl args ct pl dbl = none) ∧
    (∀ r, serverRequest Gen.Uri.component tmpl args ct pl dbl = some r →
      headerVals r a.spec.name = [v] ∧
      (toStrOk v = false → ∀ ext i, ∃ e, decodeHeader ext i a.spec.dec a.spec.ty [v] = .error e)) := by
  constructor
  · intro hbad
    have : clientHeaders args = none :=
      (clientHeaders_none_iff args).mpr ⟨a, ha, hk, v, by simp [hv], hbad⟩
    simp [serverRequest, this]
  · intro r hr
    refine ⟨by rw [C04_header_arg tmpl args wf d a ha hk ct pl dbl r hr, hv], ?_⟩
    intro hts ext i
    unfold decodeHeader
    cases a.spec.dec <;> simp [hts]

/-- **auth**: a header value that is the prefix followed by a token, and is text, `parse_auth_inner` accepts exactly
when the token is valid, and the token it validates is that one (`stripPrefix`); that the value has this form is
`C04_auth_arg` / `C04_cookie_arg` -/
theorem C04_auth (pfx tok : Endpoint.Bytes) (rest : List Endpoint.Bytes) (htext : toStrOk (pfx ++ tok) = true) :
    (decodeAuth pfx ((pfx ++ tok) :: rest) = .ok () ↔ Token.isValid tok = true) ∧
    stripPrefix pfx (pfx ++ tok) = some tok := by
  have hs : stripPrefix pfx (pfx ++ tok) = some tok := by
    unfold stripPrefix
    simp [List.prefix_append]
  refine ⟨?_, hs⟩
  -- the value is text and has the prefix, so what `decodeAuth` still asks is whether the token is valid
  simp only [decodeAuth, htext, hs]
  cases Token.isValid tok <;> simp

/-- the header list the client emits holds `Authorization: Bearer <token>` for an auth argument -/
theorem C04_auth_header : ∀ (args : List CArg) (hs : List (Endpoint.Bytes × Endpoint.Bytes)) (a : CArg),
    clientHeaders args = some hs → a ∈ args → a.spec.kind = .auth →
    (authorization, bearer ++ a.texts.headD []) ∈ hs := by
  intro args hs a h ha hk
  rw [clientHeaders_eq] at h
  split at h <;> cases h
  exact List.mem_flatMap.mpr ⟨a, ha, by simp [headerLines, hk]⟩

/-- **return values**: what the client's `decode_*_response` yields for the response the server's serializer
produced is the handler's return value — `()`; the value `v` when `parse` (the client's JSON deserializer, C01/C18)
reads the server's document back as `v`; `T::default()` / `None` for an empty collection, absent optional or absent
stream sent as 204; the body stream, handed over unread, for binary — for every chunking of the body that arrives
without a stream error (`Body.oks`) -/
theorem C04_return_roundtrip (p : Produces) (ret : Ret) (resp : Resp) (h : respond p ret = some resp)
    (bss : List (List Nat)) (hb : bss.flatten = resp.body) (parse : Endpoint.Bytes → Body.Parse) :
    clientDecode p resp (Body.oks bss) parse =
      match ret with
      | .unit => .unit
      | .value isDefault j =>
        if p = .collection ∧ isDefault = true then .default_ else Body.ClientResult.ofParse (parse j)
      | .stream _ => .stream
      | .noStream => .default_ := by
  -- clause by clause of `respond`: the last one refuses the pair; in the others `h` gives the response outright (for a
  -- collection once it is known whether the value is the default one), and both sides compute (`hb`: the body)
  revert h
  fun_cases respond p ret
  case case8 => intro h; rw [respond] at h; cases h; all_goals assumption
  case case4 d j hd =>
    cases d
    · rintro ⟨⟩; simp [clientDecode, clientKind, Body.decodeResponse, Body.ser_oks, *]
    · exact absurd rfl hd
  all_goals rintro ⟨⟩ <;> simp [clientDecode, clientKind, Body.decodeResponse, Body.ser_oks, *]

/-- the source of the response serializers that `Call.respond` / `Call.respondIn` transcribe
(conjure-http/src/server/{mod,conjure}.rs), by hash: the encoding is the one the runtime negotiates from the
request's `Accept` (C11), the body is written by that encoding's serializer and the `Content-Type` is that
encoding's own; the collection serializer sends 204 for the empty value and otherwise defers to the standard one -/
theorem gen_response_serializers :
    Gen.ServerModSrc.hashes.lookup "EmptyResponseSerializer::serialize_inner" = some 2631475357265666008 /- "{letmutresponse=Response::new(body);*response.status_mut()=StatusCode::NO_CONTENT;Ok(response)}" -/ ∧
    Gen.ServerModSrc.hashes.lookup "SerializeResponse<(),W> for EmptyResponseSerializer::serialize" = some 4411690840528284411 /- "{Self::serialize_inner(ResponseBody::Empty)}" -/ ∧
    Gen.ServerModSrc.hashes.lookup "AsyncSerializeResponse<(),W> for EmptyResponseSerializer::serialize" = some 8947365739981416789 /- "{Self::serialize_inner(AsyncResponseBody::Empty)}" -/ ∧
    Gen.ServerModSrc.hashes.lookup "StdResponseSerializer::serialize_inner" = some 6024535377672111628 /- "{letencoding=runtime.response_body_encoding(request_headers)?;letmutbody=vec![];value.erased_serialize(&mut*encoding.serializer(&mutbody).serializer()).map_err(Error::internal)?;letmutresponse=Response::new(make_body(body.into()));response.headers_mut().insert(CONTENT_TYPE,encoding.content_type());Ok(response)}" -/ ∧
    Gen.ServerModSrc.hashes.lookup "SerializeResponse<T,W> for StdResponseSerializer::serialize" = some 12355384306275551661 /- "{Self::serialize_inner(runtime,request_headers,&value,ResponseBody::Fixed)}" -/ ∧
    Gen.ServerModSrc.hashes.lookup "AsyncSerializeResponse<T,W> for StdResponseSerializer::serialize" = some 10021612588544366905 /- "{Self::serialize_inner(runtime,request_headers,&value,AsyncResponseBody::Fixed)}" -/ ∧
    Gen.ServerConjureSrc.hashes.lookup "SerializeResponse<T,W> for CollectionResponseSerializer::serialize" = some 14348492882526632244 /- "{ifvalue==T::default(){<EmptyResponseSerializerasSerializeResponse<_,_>>::serialize(runtime,request_headers,(),)}else{<StdResponseSerializerasSerializeResponse<_,_>>::serialize(runtime,request_headers,value,)}}" -/ ∧
    Gen.ServerConjureSrc.hashes.lookup "AsyncSerializeResponse<T,W> for CollectionResponseSerializer::serialize" = some 5846651114718490160 /- "{ifvalue==T::default(){<EmptyResponseSerializerasAsyncSerializeResponse<_,_>>::serialize(runtime,request_headers,(),)}else{<StdResponseSerializerasAsyncSerializeResponse<_,_>>::serialize(runtime,request_headers,value,)}}" -/ := by
  simp only [Gen.ServerModSrc.hashes, Gen.ServerConjureSrc.hashes, ↓List.lookup_cons_ite, ↓String.reduceEq,
    ↓reduceIte, and_self]

/-- **whichever encoding the response is negotiated to**: under JSON the negotiated response is `respond`'s
(`C04_return_roundtrip`); under either encoding a response that is no 204 is labelled with the content type of the
encoding its body is written in, so a client that reads by Content-Type (with `parse e` the client deserializer of
encoding `e`) gets back what `parse e` reads from the handler's document in `e`, or the empty value for a 204 — for
every chunking of the body without a stream error -/
theorem C04_return_roundtrip_negotiated (e : Enc) (p : Produces) (isDefault : Bool) (doc : Enc → Endpoint.Bytes)
    (resp : Resp) (h : respondIn e p isDefault doc = some resp)
    (bss : List (List Nat)) (hb : bss.flatten = resp.body) (parse : Enc → Endpoint.Bytes → Body.Parse) :
    (e = .json → respond p (.value isDefault (doc .json)) = some resp) ∧
    (resp.status204 = false → resp.ct = e.ct ∧ resp.body = doc e) ∧
    readByCt resp (Body.oks bss) parse =
      if p = .collection ∧ isDefault = true then .default_ else Body.ClientResult.ofParse (parse e (doc e)) := by
  -- `respondIn` answers for `.std` and `.collection` only, and `h` then fixes `resp` (the 204, or `doc e` labelled
  -- `e.ct`); the three claims compute from that, the last one per encoding (`hb`: the body)
  revert h
  fun_cases respondIn e p isDefault doc <;> rintro ⟨⟩ <;>
    refine ⟨fun he => by subst he; simp [respond, Enc.ct, *], by simp, ?_⟩ <;>
    cases e <;> simp [readByCt, Enc.ct, Body.ser_oks, *]

/-- non-vacuity: a Smile-negotiated value and an empty collection -/
example : respondIn .smile .std false (fun e => if e = .json then [49] else [58, 41, 10, 1, 194]) =
    some { status204 := false, ct := .smile, body := [58, 41, 10, 1, 194] } := by decide
example : respondIn .smile .collection true (fun _ => [91, 93]) = some { status204 := true, ct := .none, body := [] } := by decide

/-- what it takes for the values a caller supplies to be decodable: right cardinality for the decoder, each text
in the language of its type (true of `to_plain` of any value, by C12/C15/C16), header texts visible ASCII, a valid
token that is text, an acceptable body -/
def Supplied (ext : Endpoint.Bytes → Bool) (ct : CtClass) (pl : Payload) (i : Nat) (a : CArg) : Prop :=
  match a.spec.kind with
  | .path => ∃ v, a.texts = [v] ∧ decodeParam ext i a.spec.dec a.spec.ty [v] = .ok ()
  | .query => decodeParam ext i a.spec.dec a.spec.ty a.texts = .ok ()
  | .header => decodeHeader ext i a.spec.dec a.spec.ty a.texts = .ok ()
  | .auth => ∃ tok, a.texts = [tok] ∧ toStrOk (bearer ++ tok) = true ∧ Token.isValid tok = true
  | .cookie => ∃ tok, a.texts = [tok] ∧ toStrOk (a.spec.name ++ tok) = true ∧ Token.isValid tok = true
  | .body => decodeBody i a.spec.dec ct pl = .ok ()
  | .context => True

/-- **auth arguments**: under `Authorization` the server finds exactly one value, `Bearer ` followed by the token of the
endpoint's one auth argument; `C04_cookie_arg` is the same for `Cookie` and the cookie's `name=` -/
theorem C04_auth_arg (tmpl : List TSeg) (args : List CArg) (wf : CallWF tmpl args) (d : Distinct args)
    (a : CArg) (ha : ofKind .auth args = [a])
    (ct : CtClass) (pl : Payload) (dbl : List (Endpoint.Bytes × Bool)) (r : Request)
    (hr : serverRequest Gen.Uri.component tmpl args ct pl dbl = some r) :
    headerVals r authorization = [bearer ++ a.texts.headD []] := by
  cases serverRequest_some gen_component_good wf hr
  rw [headerVals, headerLines_auth_vals args fun b hb hk => (d.reserved b hb hk).1, ← ofKind, ha]
  rfl

theorem C04_cookie_arg (tmpl : List TSeg) (args : List CArg) (wf : CallWF tmpl args) (d : Distinct args)
    (a : CArg) (ha : ofKind .cookie args = [a])
    (ct : CtClass) (pl : Payload) (dbl : List (Endpoint.Bytes × Bool)) (r : Request)
    (hr : serverRequest Gen.Uri.component tmpl args ct pl dbl = some r) :
    headerVals r cookie = [a.spec.name ++ a.texts.headD []] := by
  cases serverRequest_some gen_component_good wf hr
  rw [headerVals, headerLines_cookie_vals args fun b hb hk => (d.reserved b hb hk).2, ← ofKind, ha]
  rfl

/-- **the handler is invoked**: for any call whose supplied values are decodable (`Supplied`) every argument decoder
of the endpoint succeeds on the request the client sent (`error = none`, which in Model/Endpoint.lean is where the
handler runs, once) — i.e. client output is acceptable server input, whatever the texts contain.  `hpaths`: the
template names every path argument; `hauth`, `hcookie`: an endpoint has at most one auth argument -/
theorem C04_handler_runs (tmpl : List TSeg) (args : List CArg) (wf : CallWF tmpl args) (d : Distinct args)
    (hpaths : ∀ a ∈ args, a.spec.kind = .path → TSeg.param a.spec.name ∈ tmpl)
    (hauth : ∀ a ∈ args, a.spec.kind = .auth → ofKind .auth args = [a])
    (hcookie : ∀ a ∈ args, a.spec.kind = .cookie → ofKind .cookie args = [a])
    (ct : CtClass) (pl : Payload) (dbl : List (Endpoint.Bytes × Bool)) (r : Request)
    (hr : serverRequest Gen.Uri.component tmpl args ct pl dbl = some r)
    (hs : ∀ i a, args[i]? = some a → Supplied (fun t => (dbl.lookup t).getD false) ct pl i a) :
    (handleReq (args.map (·.spec)) r).error = none := by
  rw [C19.C19_all_decode_iff]
  intro k s hk
  rw [List.getElem?_map] at hk
  obtain ⟨a, ha, rfl⟩ := Option.map_eq_some_iff.mp hk
  have hmem : a ∈ args := List.mem_of_getElem? ha
  have hsup := hs k a ha
  have hreq := serverRequest_some gen_component_good wf hr
  have hdbl : r.dbl = dbl := by rw [hreq]
  unfold Supplied at hsup
  unfold decodeArg
  cases hkind : a.spec.kind <;> simp only [hkind] at hsup ⊢
  case path =>
    obtain ⟨v, hv, hd⟩ := hsup
    rw [C04_path_arg tmpl args wf d a v hmem hkind hv (hpaths a hmem hkind) ct pl dbl r hr, hdbl, hd]
  case query => rw [C04_query_arg tmpl args wf d a hmem hkind ct pl dbl r hr, hdbl, hsup]
  case header => rw [C04_header_arg tmpl args wf d a hmem hkind ct pl dbl r hr, hdbl, hsup]
  case body => simp only [hreq, hsup]
  case auth =>
    obtain ⟨tok, ht, htxt, hval⟩ := hsup
    rw [C04_auth_arg tmpl args wf d a (hauth a hmem hkind) ct pl dbl r hr, ht]
    exact ((C04_auth bearer tok [] htxt).1).mpr hval
  case cookie =>
    obtain ⟨tok, ht, htxt, hval⟩ := hsup
    rw [C04_cookie_arg tmpl args wf d a (hcookie a hmem hkind) ct pl dbl r hr, ht]
    exact ((C04_auth a.spec.name tok [] htxt).1).mpr hval

def exTmpl : List TSeg := [.lit [118], .param [112]]
def exArgs : List CArg := [
  { spec := { kind := .path, dec := .one, ty := .str, name := [112], logName := [112], ident := [112], safe := false }, texts := [[47, 63, 35, 37]] },
  { spec := { kind := .query, dec := .seq, ty := .int, name := [113], logName := [113], ident := [113], safe := false }, texts := [[49], [50]] },
  { spec := { kind := .header, dec := .one, ty := .str, name := [104], logName := [104], ident := [104], safe := false }, texts := [[120, 32, 121]] }]

example : (uriBytes Gen.Uri.component exTmpl exArgs) = [47, 118, 47, 37, 50, 70, 37, 51, 70, 37, 50, 51, 37, 50, 53, 63, 113, 61, 49, 38, 113, 61, 50] := by
  decide +kernel
example : ((serverRequest Gen.Uri.component exTmpl exArgs .absent .ok []).map (fun r => (handleReq (exArgs.map (·.spec)) r).error.isNone)) = some true := by
  decide +kernel

end ConjureVerif.C04

namespace ConjureVerif.C04G
open ConjureVerif ConjureVerif.Emit

/-- the generator source Model/Emit.lean transcribes, by hash: the client method (clients.rs), the server trait method
(servers.rs), the path template parser (http_paths.rs) and the type predicates they consult (context.rs) -/
theorem gen_emit_sources :
    Gen.CodegenClientsSrc.hashes.lookup "fn generate_endpoint" = some 4899617061108162888 /- "{letdocs=ctx.docs(endpoint.docs());letdeprecated=matchendpoint.deprecated(){Some(docs)=>{letdocs=&**docs;quote!{#[deprecated(note=#docs)]}}None=>quote!(),};letasync_=matchstyle{Style::Async=>quote!(async),Style::Sync=>quote!(),};letname=ctx.field_name(endpoint.endpoint_name());letbody_arg=body_arg(endpoint);letparams=params(ctx,body_arg);letauth=quote!(auth_);letauth_arg=auth_arg(endpoint,&auth);l…" -/ ∧
    Gen.CodegenClientsSrc.hashes.lookup "fn body_arg" = some 2187006078158176704 /- "{endpoint.args().iter().find(|a|matches!(a.param_type(),ParameterType::Body(_)))}" -/ ∧
    Gen.CodegenClientsSrc.hashes.lookup "fn return_type" = some 16980912466079708875 /- "{matchendpoint.returns(){Some(ret)=>matchctx.is_optional(ret){Some(inner)ifctx.is_binary(inner)=>ReturnType::OptionalBinary,_ifctx.is_binary(ret)=>ReturnType::Binary,_=>ReturnType::Json(ret),},None=>ReturnType::None,}}" -/ ∧
    Gen.CodegenClientsSrc.hashes.lookup "fn return_type_name" = some 17450906323156107254 /- "{matchty{ReturnType::None=>quote!(()),ReturnType::Json(ty)=>ctx.rust_type(def.service_name(),ty),ReturnType::Binary=>quote!(T::ResponseBody),ReturnType::OptionalBinary=>{letoption=ctx.option_ident(def.service_name());quote!(#option<T::ResponseBody>)}}}" -/ ∧
    Gen.CodegenClientsSrc.hashes.lookup "fn setup_request" = some 14685793083886568292 /- "{matchbody_arg{Some(body_arg)=>{letname=ctx.field_name(body_arg.arg_name());ifctx.is_binary(body_arg.type_()){matchstyle{Style::Sync=>quote!{letmut#request=conjure_http::private::encode_binary_request(#name);},Style::Async=>quote!{letmut#request=conjure_http::private::async_encode_binary_request(#name);},}}else{letfunction=matchstyle{Style::Sync=>quote!(encode_serializable_request),Style::Async=>q…" -/ ∧
    Gen.CodegenClientsSrc.hashes.lookup "fn setup_path" = some 14031793499817745477 /- "{letpath=quote!(path_);letpath_components=setup_path_components(ctx,endpoint,&path);letquery_components=setup_query_components(ctx,endpoint,&path);quote!{letmut#path=conjure_http::private::UriBuilder::new();#path_components#query_components*#request.uri_mut()=#path.build();}}" -/ ∧
    Gen.CodegenClientsSrc.hashes.lookup "fn setup_path_components" = some 10980038237543343386 /- "{letpath_params=endpoint.args().iter().filter(|arg|matches!(arg.param_type(),&ParameterType::Path(_))).map(|arg|{letkey=&***arg.arg_name();letvalue=ctx.field_name(key);(key,value)}).collect::<HashMap<_,_>>();letmutcalls=vec![];letmutcur=String::new();forsegmentinhttp_paths::parse(endpoint.http_path()){matchsegment{PathSegment::Literal(lit)=>{cur.push('/');cur.push_str(lit);}PathSegment::Parameter{…" -/ ∧
    Gen.CodegenClientsSrc.hashes.lookup "fn setup_query_components" = some 8887678359109258859 /- "{letmutcalls=vec![];forargumentinendpoint.args(){letquery=matchargument.param_type(){ParameterType::Query(query)=>query,_=>continue,};letkey=&**query.param_id();letname=ctx.field_name(argument.arg_name());letcall=ifctx.is_optional(argument.type_()).is_some(){quote!{#path.push_optional_query_parameter(#key,&#name);}}elseifctx.is_list(argument.type_()){quote!{#path.push_list_query_parameter(#key,&#n…" -/ ∧
    Gen.CodegenClientsSrc.hashes.lookup "fn setup_headers" = some 7531194371341481828 /- "{letmutcalls=vec![];ifletSome(call)=auth_header(endpoint,request,auth){calls.push(call);}forargumentinendpoint.args(){letheader=matchargument.param_type(){ParameterType::Header(header)=>header,_=>continue,};letheader=header.param_id().to_lowercase();letname=ctx.field_name(argument.arg_name());letcall=ifctx.is_optional(argument.type_()).is_some(){quote!{conjure_http::private::encode_optional_header…" -/ ∧
    Gen.CodegenClientsSrc.hashes.lookup "fn auth_header" = some 4915863944739843995 /- "{matchendpoint.auth(){Some(AuthType::Cookie(cookie))=>{letprefix=format!(\"{}=\",cookie.cookie_name());Some(quote!{conjure_http::private::encode_cookie_auth(&mut#request,#prefix,#auth);})}Some(AuthType::Header(_))=>Some(quote!{conjure_http::private::encode_header_auth(&mut#request,#auth);}),None=>None,}}" -/ ∧
    Gen.CodegenClientsSrc.hashes.lookup "fn setup_response_headers" = some 3759224840772371562 /- "{matchty{ReturnType::None=>quote!{conjure_http::private::encode_empty_response_headers(&mut#request);},ReturnType::Json(_)=>{quote!{conjure_http::private::encode_serializable_response_headers(&mut#request);}}ReturnType::Binary|&ReturnType::OptionalBinary=>quote!{conjure_http::private::encode_binary_response_headers(&mut#request);},}}" -/ ∧
    Gen.CodegenClientsSrc.hashes.lookup "fn setup_endpoint_extension" = some 1424937676276531747 /- "{letservice=service.service_name().name();letversion=matchctx.version(){Some(version)=>quote!{conjure_http::private::Option::Some(#version)},None=>quote!{conjure_http::private::Option::None},};letname=&***endpoint.endpoint_name();letpath=&***endpoint.http_path();quote!{#request.extensions_mut().insert(conjure_http::client::Endpoint::new(#service,#version,#name,#path,));}}" -/ ∧
    Gen.CodegenClientsSrc.hashes.lookup "fn setup_decode_response" = some 4320818972490165265 /- "{match(ty,style){(ReturnType::None,Style::Sync)=>quote!{conjure_http::private::decode_empty_response(#response)},(ReturnType::None,Style::Async)=>quote!{conjure_http::private::async_decode_empty_response(#response).await},(ReturnType::Json(ty),Style::Sync)=>{ifctx.is_iterable(ty){quote!{conjure_http::private::decode_default_serializable_response(#response)}}else{quote!{conjure_http::private::decod…" -/ ∧
    Gen.CodegenServersSrc.hashes.lookup "fn generate_trait_endpoint" = some 16102266904124567240 /- "{letdocs=ctx.docs(endpoint.docs());letmethod=endpoint.http_method().as_str().parse::<TokenStream>().unwrap();letpath=&**endpoint.http_path();letendpoint_name=&**endpoint.endpoint_name();letasync_=matchstyle{Style::Async=>quote!(async),Style::Sync=>quote!(),};letname=ctx.field_name(endpoint.endpoint_name());letproduces=matchendpoint.returns(){Some(ty)=>{letproduces=produces(ctx,ty);quote!(,produces…" -/ ∧
    Gen.CodegenServersSrc.hashes.lookup "fn produces" = some 8558927906836934933 /- "{matchctx.is_optional(ty){Some(inner)ifctx.is_binary(inner)=>{quote!(conjure_http::server::conjure::OptionalBinaryResponseSerializer)}_ifctx.is_binary(ty)=>quote!(conjure_http::server::conjure::BinaryResponseSerializer),_ifctx.is_iterable(ty)=>{quote!(conjure_http::server::conjure::CollectionResponseSerializer)}_=>quote!(conjure_http::server::StdResponseSerializer),}}" -/ ∧
    Gen.CodegenServersSrc.hashes.lookup "fn auth_arg" = some 2819720619934323493 /- "{matchendpoint.auth(){Some(auth)=>{letparams=matchauth{AuthType::Header(_)=>quote!(),AuthType::Cookie(cookie)=>{letname=&cookie.cookie_name();quote!((cookie_name=#name))}};quote!(,#[auth#params]auth_:conjure_object::BearerToken)}None=>quote!(),}}" -/ ∧
    Gen.CodegenServersSrc.hashes.lookup "fn arg" = some 4541912162902917267 /- "{letname=ctx.field_name(arg.arg_name());letlog_as=ifname==**arg.arg_name(){quote!()}else{letlog_as=&**arg.arg_name();quote!(,log_as=#log_as)};letsafe=ifctx.is_safe_arg(arg){quote!(,safe)}else{quote!()};letattr=matcharg.param_type(){ParameterType::Body(_)=>{letdeserializer=ifctx.is_optional(arg.type_()).is_some(){letmutdecoder=quote!(conjure_http::server::conjure::OptionalRequestDeserializer);letde…" -/ ∧
    Gen.CodegenServersSrc.hashes.lookup "fn optional_decoder" = some 8536855735895532482 /- "{letmutdecoder=quote!(conjure_http::server::conjure::FromPlainOptionDecoder);letdealiased=ctx.dealiased_type(ty);ifdealiased!=ty{letdealiased=ctx.rust_type(def.service_name(),dealiased);decoder=quote!(conjure_http::server::FromDecoder<#decoder,#dealiased>)}decoder}" -/ ∧
    Gen.CodegenServersSrc.hashes.lookup "fn request_context_arg" = some 11043518883622856837 /- "{ifhas_request_context(endpoint){quote!(,#[context]request_context_:conjure_http::server::RequestContext<'_>)}else{quote!()}}" -/ ∧
    Gen.CodegenServersSrc.hashes.lookup "fn return_type" = some 15598531446812545551 /- "{matchendpoint.returns(){Some(ty)=>matchctx.is_optional(ty){Some(inner)ifctx.is_binary(inner)=>ReturnType::OptionalBinary,_ifctx.is_binary(ty)=>ReturnType::Binary,_=>ReturnType::Json(ty),},None=>ReturnType::None,}}" -/ ∧
    Gen.CodegenServersSrc.hashes.lookup "fn has_request_context" = some 400118104434433147 /- "{endpoint.tags().iter().any(|t|t==\"server-request-context\")}" -/ ∧
    Gen.CodegenHttpPathsSrc.hashes.lookup "fn parse" = some 15596414897768765345 /- "{path.split('/').skip(1).map(|segment|matchsegment.strip_prefix('{').and_then(|s|s.strip_suffix('}')){Some(segment)=>{letmutit=segment.splitn(2,':');PathSegment::Parameter{name:it.next().unwrap(),_regex:it.next(),}}None=>PathSegment::Literal(segment),},)}" -/ ∧
    Gen.CodegenContextSrc.hashes.lookup "Context::dealiased_type" = some 4920999125965768252 /- "{matchdef{Type::Primitive(_)|Type::Optional(_)|Type::List(_)|Type::Set(_)|Type::Map(_)=>def,Type::Reference(name)=>match&self.types[name].def{TypeDefinition::Enum(_)|TypeDefinition::Object(_)|TypeDefinition::Union(_)=>{def}TypeDefinition::Alias(def)=>self.dealiased_type(def.alias()),},Type::External(def)=>self.dealiased_type(def.fallback()),}}" -/ ∧
    Gen.CodegenContextSrc.hashes.lookup "Context::is_binary" = some 13955510794151340484 /- "{matchdef{Type::Primitive(PrimitiveType::Binary)=>true,Type::Primitive(_)|Type::Optional(_)|Type::List(_)|Type::Set(_)|Type::Map(_)=>false,Type::Reference(def)=>self.is_binary_ref(def),Type::External(def)=>self.is_binary(def.fallback()),}}" -/ ∧
    Gen.CodegenContextSrc.hashes.lookup "Context::is_binary_ref" = some 6344199050894492925 /- "{letctx=&self.types[name];match&ctx.def{TypeDefinition::Alias(def)=>self.is_binary(def.alias()),TypeDefinition::Enum(_)|TypeDefinition::Object(_)|TypeDefinition::Union(_)=>false,}}" -/ ∧
    Gen.CodegenContextSrc.hashes.lookup "Context::is_iterable" = some 15275853327717276524 /- "{matchdef{Type::Primitive(_)=>false,Type::Optional(_)|Type::List(_)|Type::Set(_)|Type::Map(_)=>true,Type::Reference(def)=>self.is_iterable_ref(def),Type::External(def)=>self.is_iterable(def.fallback()),}}" -/ ∧
    Gen.CodegenContextSrc.hashes.lookup "Context::is_iterable_ref" = some 3555025422218363586 /- "{letctx=&self.types[name];match&ctx.def{TypeDefinition::Alias(def)=>self.is_iterable(def.alias()),TypeDefinition::Enum(_)|TypeDefinition::Object(_)|TypeDefinition::Union(_)=>false,}}" -/ ∧
    Gen.CodegenContextSrc.hashes.lookup "Context::is_optional" = some 15310284683605478148 /- "{matchdef{Type::Primitive(_)|Type::List(_)|Type::Set(_)|Type::Map(_)=>None,Type::Optional(def)=>Some(def.item_type()),Type::Reference(def)=>self.is_optional_ref(def),Type::External(def)=>self.is_optional(def.fallback()),}}" -/ ∧
    Gen.CodegenContextSrc.hashes.lookup "Context::is_optional_ref" = some 16060014361428297009 /- "{letctx=&self.types[name];match&ctx.def{TypeDefinition::Alias(def)=>self.is_optional(def.alias()),TypeDefinition::Enum(_)|TypeDefinition::Object(_)|TypeDefinition::Union(_)=>None,}}" -/ ∧
    Gen.CodegenContextSrc.hashes.lookup "Context::is_list" = some 7293379953684849428 /- "{matchdef{Type::List(_)=>true,Type::Primitive(_)|Type::Optional(_)|Type::Set(_)|Type::Map(_)=>false,Type::Reference(def)=>self.is_list_ref(def),Type::External(def)=>self.is_list(def.fallback()),}}" -/ ∧
    Gen.CodegenContextSrc.hashes.lookup "Context::is_list_ref" = some 4472545208240749876 /- "{letctx=&self.types[name];match&ctx.def{TypeDefinition::Alias(def)=>self.is_list(def.alias()),TypeDefinition::Enum(_)|TypeDefinition::Object(_)|TypeDefinition::Union(_)=>false,}}" -/ ∧
    Gen.CodegenContextSrc.hashes.lookup "Context::is_set" = some 18146976111862198898 /- "{matchdef{Type::Set(_)=>true,Type::Primitive(_)|Type::Optional(_)|Type::List(_)|Type::Map(_)=>false,Type::Reference(def)=>self.is_set_ref(def),Type::External(def)=>self.is_set(def.fallback()),}}" -/ ∧
    Gen.CodegenContextSrc.hashes.lookup "Context::is_set_ref" = some 6624238053037641794 /- "{letctx=&self.types[name];match&ctx.def{TypeDefinition::Alias(def)=>self.is_set(def.alias()),TypeDefinition::Enum(_)|TypeDefinition::Object(_)|TypeDefinition::Union(_)=>false,}}" -/ ∧
    Gen.CodegenContextSrc.hashes.lookup "Context::field_name" = some 241302775771227475 /- "{Ident::new(&self.ident_name(s),Span::call_site())}" -/ ∧
    Gen.CodegenContextSrc.hashes.lookup "Context::ident_name" = some 9600903739137547653 /- "{letmuts=s.to_snake_case();letkeyword=match&*s{\"as\"|\"break\"|\"const\"|\"continue\"|\"crate\"|\"else\"|\"enum\"|\"extern\"|\"false\"|\"fn\"|\"for\"|\"if\"|\"impl\"|\"in\"|\"let\"|\"loop\"|\"match\"|\"mod\"|\"move\"|\"mut\"|\"pub\"|\"ref\"|\"return\"|\"self\"|\"static\"|\"struct\"|\"super\"|\"trait\"|\"true\"|\"type\"|\"unsafe\"|\"use\"|\"where\"|\"while\"|\"await\"=>true,\"abstract\"|\"async\"|…" -/ := by
  simp only [Gen.CodegenClientsSrc.hashes, Gen.CodegenServersSrc.hashes, Gen.CodegenHttpPathsSrc.hashes,
    Gen.CodegenContextSrc.hashes, ↓List.lookup_cons_ite, ↓String.reduceEq, ↓reduceIte, and_self]

/-- the type predicates `is_optional`, `is_list`, `is_set`, `is_iterable`, `is_binary` are views of one resolution
through aliases and imported types (`dealiased_type`; they need one unit of fuel more than it), so they never
disagree; iterable is optional, list, set or map, and a binary type is not iterable -/
theorem C04_emit_predicates_consistent (defs : Defs) (f : Nat) (t : ITy) :
    isOptional defs (f + 1) t = optView (dealiased defs f t) ∧ isList defs (f + 1) t = listView (dealiased defs f t) ∧
    isSet defs (f + 1) t = setView (dealiased defs f t) ∧ isIterable defs (f + 1) t = iterView (dealiased defs f t) ∧
    isBinary defs (f + 1) t = binView (dealiased defs f t) ∧
    (isIterable defs (f + 1) t = ((isOptional defs (f + 1) t).isSome || isList defs (f + 1) t || isSet defs (f + 1) t ||
      mapView (dealiased defs f t))) ∧
    (isBinary defs (f + 1) t = true → isIterable defs (f + 1) t = false) := by
  obtain ⟨ho, hl, hs, hi, hb⟩ := predicates_view defs f t
  refine ⟨ho, hl, hs, hi, hb, ?_, ?_⟩
  · rw [hi, ho, hl, hs]; cases dealiased defs f t <;> rfl
  · rw [hb, hi]
    -- the four iterable constructors are not the binary primitive
    cases dealiased defs f t with
    | optional | list | set | map => exact nofun
    | _ => exact fun _ => rfl

/-- the path the generated client builds is the template, segment by segment, with every parameter (`{name}` or
`{name:regex}`) replaced by the percent-encoded text of the path argument of that name -/
theorem C04_emit_path (tbl : List Nat) (kw : List String) (args : List Arg) (txt : Option String → Emit.Bytes)
    (path : Emit.Bytes) :
    (pathCalls kw args (parsePath path) []).flatMap (callBuf tbl txt) =
      (parsePath path).flatMap (segBuf tbl (fun n => txt ((args.find? (fun a => a.kind == .path && a.name == n)).map (ident kw)))) := by
  simpa using pathCalls_buf kw args tbl txt (parsePath path) []

/-- `{name:regex}` is the parameter `name`; consecutive literal segments are pushed joined -/
example : parsePath [47, 102, 47, 123, 112, 58, 46, 43, 125] = [.lit [102], .param [112]] := by decide
example : pathCalls [] [] [.lit [97], .lit [98], .param [112], .lit [99]] [] =
    [.lit [47, 97, 47, 98], .pathParam none, .lit [47, 99]] := by decide

def callProduces : Option Emit.Produces → Call.Produces
  | none => .empty
  | some .std => .std
  | some .collection => .collection
  | some .binary => .binary
  | some .optionalBinary => .optBinary

def decodeKind : Emit.Decode → Body.Kind
  | .empty => .empty
  | .serializable => .serializable
  | .default_ => .defaultSerializable
  | .binary => .binary
  | .optionalBinary => .optionalBinary

/-- **return types**: for every return type (through any chain of aliases and imported types) the `decode_*`
function the generated client calls is the one that reads what the response serializer named in the generated
server trait writes (`Call.clientKind`, used by `C04_return_roundtrip`), and the `Accept` header asks for it -/
theorem C04_emit_return_agree (defs : Defs) (f : Nat) (r : Option ITy) :
    decodeKind (decodeOf defs f (returnType defs f r)) = Call.clientKind (callProduces (r.map (produces defs f))) ∧
    (acceptOf (returnType defs f r) = .serializable ↔
      (r.map (produces defs f) = some .std ∨ r.map (produces defs f) = some .collection)) ∧
    (acceptOf (returnType defs f r) = .binary ↔
      (r.map (produces defs f) = some .binary ∨ r.map (produces defs f) = some .optionalBinary)) ∧
    (acceptOf (returnType defs f r) = .empty ↔ r = none) := by
  cases r with
  | none => simp [returnType, decodeOf, decodeKind, callProduces, Call.clientKind, acceptOf]
  | some t =>
    rw [Option.map_some]
    -- client and server sort the type alike; what remains is the table for the three classes
    rcases returnType_cases defs f t with ⟨h, h'⟩ | ⟨h, h'⟩ | ⟨h, h'⟩ <;> rw [h, h', decodeOf]
    · simp [decodeKind, callProduces, Call.clientKind, acceptOf]
    · simp [decodeKind, callProduces, Call.clientKind, acceptOf]
    · cases isIterable defs f t <;> simp [decodeKind, callProduces, Call.clientKind, acceptOf]

/-- **query arguments**: the generated client sends a query argument (whose type is not a map: Conjure allows
primitives, optionals, lists and sets there) with the push of the cardinality that the decoder named in the server
trait takes; the server's attribute carries the argument's key and Rust identifier -/
theorem C04_emit_query_agree (defs : Defs) (f : Nat) (kw : List String) (a : Arg) (id : Emit.Bytes)
    (hk : a.kind = .query id) (hm : mapView (dealiased defs f a.ty) = false) :
    ∃ d l, serverArg defs (f + 1) kw a = .query id d (ident kw a) l ∧
      d.card = (queryPush defs (f + 1) a.ty).card := by
  unfold serverArg
  rw [hk]
  refine ⟨_, _, rfl, ?_⟩
  rw [queryPush_card defs f a.ty hm]
  cases (isOptional defs (f + 1) a.ty).isSome <;> cases isIterable defs (f + 1) a.ty <;> rfl

/-- **header arguments**: the server decodes with the option decoder exactly when the type is optional and with the
one-value decoder exactly when it is not; the attribute carries the header's declared name and the argument's Rust
identifier.  (The client, `headerCalls`, asks the same `is_optional` and lower-cases the name: header names are
case-insensitive, and `http` stores them so.) -/
theorem C04_emit_header_agree (defs : Defs) (f : Nat) (kw : List String) (a : Arg) (id : Emit.Bytes)
    (hk : a.kind = .header id) :
    ∃ d l, serverArg defs f kw a = .header id d (ident kw a) l ∧
      (d.card = .opt ↔ (isOptional defs f a.ty).isSome = true) ∧ (d = .one ↔ (isOptional defs f a.ty).isSome = false) := by
  unfold serverArg
  rw [hk]
  refine ⟨_, _, rfl, ?_⟩
  cases (isOptional defs f a.ty).isSome <;> simp [Dec.card, optionalDec]

/-- **bodies**: the server reads the body with the binary deserializer exactly when its type `is_binary`, which is the
test by which the client (`setupRequest`) streams it (`encode_binary_request`) and does not serialize it; the attribute
carries the argument's Rust identifier -/
theorem C04_emit_body_agree (defs : Defs) (f : Nat) (kw : List String) (a : Arg) (hk : a.kind = .body) :
    ∃ d l, serverArg defs (f + 1) kw a = .body d (ident kw a) l ∧
      (d = .binary ↔ isBinary defs (f + 1) a.ty = true) := by
  unfold serverArg
  rw [hk]
  refine ⟨_, _, rfl, ?_⟩
  obtain ⟨ho, -, -, -, hb⟩ := predicates_view defs f a.ty
  rw [ho, hb]
  cases dealiased defs f a.ty with
  | prim b => cases b <;> simp [optView, binView]
  | _ => simp [optView, binView]

/-- **auth**: header auth on one side is header auth on the other; a cookie's name on the server is the client's
prefix without its `=`; no auth, no auth call and no auth attribute -/
theorem C04_emit_auth_agree (defs : Defs) (f : Nat) (kw : List String) (e : Endpoint) :
    (e.auth = .none → Call.headerAuth ∉ clientCalls defs f kw e ∧ (∀ p, Call.cookieAuth p ∉ clientCalls defs f kw e) ∧
      (∀ c, SAttr.auth c ∉ serverAttrs defs f kw e)) ∧
    (e.auth = .header → Call.headerAuth ∈ clientCalls defs f kw e ∧ SAttr.auth none ∈ serverAttrs defs f kw e) ∧
    (∀ n, e.auth = .cookie n → Call.cookieAuth (n ++ [61]) ∈ clientCalls defs f kw e ∧ SAttr.auth (some n) ∈ serverAttrs defs f kw e) := by
  refine ⟨fun h => ?none, fun h => ?_, fun n h => ?_⟩
  case none =>
    -- without auth the only header-writing calls of a client method are those for its header arguments
    have no (c : Call) (hw : c.writesHeader = true) (hn : ∀ o n i, c ≠ .header o n i) : c ∉ clientCalls defs f kw e := by
      intro hc
      have := List.mem_filter.mpr ⟨hc, hw⟩
      rw [clientCalls_writesHeader, h] at this
      obtain ⟨o, n, i, rfl⟩ := headerCalls_mem defs f kw e.args c this
      exact hn o n i rfl
    refine ⟨no _ rfl fun _ _ _ => Call.noConfusion, fun p => no _ rfl fun _ _ _ => Call.noConfusion, fun c hm => ?_⟩
    simp only [serverAttrs, h, List.append_nil, List.mem_append, List.mem_singleton, List.mem_map] at hm
    rcases hm with (hm | ⟨a, -, ha⟩) | hm
    · cases hm
    · revert ha; unfold serverArg; cases a.kind <;> simp
    · split at hm <;> simp at hm
  all_goals simp only [clientCalls, headerCalls, serverAttrs, h, List.mem_append, List.mem_cons, true_or, or_true, and_self]

open ConjureVerif.EmitUri in
/-- **the generated client sends the model's request**: performed with the arguments' PLAIN texts (`txt`, by Rust
identifier) and the token `tok`, the `UriBuilder` calls and the header-writing calls of the generated client method
produce exactly the URI bytes and the header list (or the refusal) that `Call.uriBytes` / `Call.clientHeaders` assign
to the template and to the argument list `authCargs ++ args.map cargOf` — for every definition whose template
parameters each name a path argument -/
theorem C04_generated_request (tbl : List Nat) (defs : Defs) (f : Nat) (ty : Arg → Endpoint.PTy) (safe : Arg → Bool)
    (kw : List String) (txt : String → List Emit.Bytes) (tok : Emit.Bytes) (e : Emit.Endpoint)
    (hp : ∀ n, Seg.param n ∈ parsePath e.path → (e.args.find? (fun a => a.kind == .path && a.name == n)).isSome = true) :
    Uri.buildBuf tbl ((clientCalls defs f kw e).flatMap (pushesOf tbl txt)) =
      Call.uriBytes tbl (tmplOf e) (authCargs e.auth tok ++ e.args.map (cargOf defs f ty safe kw txt)) ∧
    headersOf txt tok (clientCalls defs f kw e) =
      Call.clientHeaders (authCargs e.auth tok ++ e.args.map (cargOf defs f ty safe kw txt)) := by
  rw [uriBytes_auth]
  exact ⟨emit_uri tbl defs f ty safe kw txt e hp, emit_headers defs f ty safe kw txt tok e⟩

open ConjureVerif.EmitUri in
/-- **the generated server trait describes each argument as the request model (`cargOf`) does**: kind, decoder
cardinality, wire name, reported name, identifier — so the handler `#[conjure_endpoints]` expands to works from the
same descriptors -/
theorem C04_generated_specs (defs : Defs) (f : Nat) (ty : Arg → Endpoint.PTy) (safe : Arg → Bool) (kw : List String)
    (txt : String → List Emit.Bytes) (a : Arg) :
    specOfAttr (ty a) (safe a) (serverArg defs f kw a) = some (cargOf defs f ty safe kw txt a).spec := by
  unfold cargOf
  cases hk : a.kind <;> simp only [serverArg, hk, specOfAttr, logAs_getD] <;> rfl

open ConjureVerif.EmitUri in
/-- `C04_handler_runs` at the template of a generated endpoint; `hargs` names the argument list both halves were
generated from (`C04_generated_request`, `C04_generated_specs`), and the proof does not use it -/
theorem C04_generated_handler_runs (defs : Defs) (f : Nat) (ty : Arg → Endpoint.PTy) (safe : Arg → Bool) (kw : List String)
    (txt : String → List Emit.Bytes) (tok : Emit.Bytes) (e : Emit.Endpoint)
    (args : List Call.CArg) (hargs : args = authCargs e.auth tok ++ e.args.map (cargOf defs f ty safe kw txt))
    (wf : Call.CallWF (tmplOf e) args) (d : C04.Distinct args)
    (hpaths : ∀ a ∈ args, a.spec.kind = .path → Call.TSeg.param a.spec.name ∈ tmplOf e)
    (hauth : ∀ a ∈ args, a.spec.kind = .auth → C04.ofKind .auth args = [a])
    (hcookie : ∀ a ∈ args, a.spec.kind = .cookie → C04.ofKind .cookie args = [a])
    (ct : Endpoint.CtClass) (pl : Endpoint.Payload) (dbl : List (Endpoint.Bytes × Bool)) (r : Endpoint.Request)
    (hr : Call.serverRequest Gen.Uri.component (tmplOf e) args ct pl dbl = some r)
    (hs : ∀ i a, args[i]? = some a → C04.Supplied (fun t => (dbl.lookup t).getD false) ct pl i a) :
    (Endpoint.handleReq (args.map (·.spec)) r).error = none :=
  C04.C04_handler_runs (tmplOf e) args wf d hpaths hauth hcookie ct pl dbl r hr hs

/-- non-vacuity of `C04_generated_request`'s hypothesis, and the request it yields: `GET /a/{p}?q=…` -/
def exEndpoint : Emit.Endpoint :=
  { method := [71, 69, 84], path := [47, 97, 47, 123, 112, 125], name := [103], auth := .header, context := false, returns := none,
    args := [{ name := [112], snake := "p", kind := .path, ty := .prim false }, { name := [113], snake := "q", kind := .query [113], ty := .list (.prim false) }] }
example : ∀ n, Seg.param n ∈ parsePath exEndpoint.path →
    (exEndpoint.args.find? (fun a => a.kind == .path && a.name == n)).isSome = true := by
  intro n hn
  rw [show parsePath exEndpoint.path = [.lit [97], .param [112]] by decide] at hn
  simp at hn
  subst hn; decide
example : Uri.buildBuf [37, 47] ((clientCalls [] 4 [] exEndpoint).flatMap (EmitUri.pushesOf [37, 47] (fun _ => [[120, 47], [50]]))) =
    [47, 97, 47, 120, 37, 50, 70, 63, 113, 61, 120, 37, 50, 70, 38, 113, 61, 50] := by decide

/-- non-vacuity: an alias of an alias of `optional<string>` as a query argument, an alias of `list<integer>` as the
return type -/
def exDefs : Defs := [.alias (.optional (.prim false)), .alias (.ref 0), .alias (.list (.prim false)), .other]
example : queryPush exDefs 8 (.ref 1) = .optional ∧ produces exDefs 8 (.ref 2) = .collection ∧
    decodeOf exDefs 8 (returnType exDefs 8 (some (.ref 2))) = .default_ ∧
    optionalDec exDefs 8 (.ref 1) = .opt true ∧ optionalDec exDefs 8 (.optional (.prim false)) = .opt false := by
  decide

end ConjureVerif.C04G

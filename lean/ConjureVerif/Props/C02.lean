import ConjureVerif.Lemmas.WireIdem
import ConjureVerif.Lemmas.Base64Canon
import ConjureVerif.Gen.CodegenObjectsSrc
import ConjureVerif.Gen.CodegenContextSrc
import ConjureVerif.Gen.CodegenUnionsSrc
import ConjureVerif.Gen.CodegenAliasesSrc
import ConjureVerif.Gen.CodegenEnumsSrc
import ConjureVerif.Lemmas.Pins
/-
C02 — Generated types read and write the Conjure wire format for every definition.

`Wire.canon` is the wire specification transcribed independently of the generator (Model/Wire.lean): for any set of
definitions, configuration and type it maps a JSON document to the canonical re-serialization of the value it
denotes or rejects it.  The theorems below are the statement's clauses, proved of `canon` for *all* definitions and
documents; that the generated code computes `canon` is established by correspondence on compiled generated code
(the generator's per-field decisions and the derive macros are executed, not modelled).
-/
namespace ConjureVerif.C02
open ConjureVerif ConjureVerif.Data ConjureVerif.Wire

/-! #### instantiation: the generator functions that decide rename / skip / default, union and enum (de)serializers -/
theorem gen_codegen_sources :
    Gen.CodegenObjectsSrc.hashes.lookup "fn serde_field_attr" = some 3015309196110844389 ∧
    Gen.CodegenContextSrc.hashes.lookup "Context::is_required" = some 14450435835762555992 ∧
    Gen.CodegenContextSrc.hashes.lookup "Context::ref_is_required" = some 6851855165001962476 ∧
    Gen.CodegenContextSrc.hashes.lookup "Context::is_empty_method" = some 10405084132195873772 ∧
    Gen.CodegenContextSrc.hashes.lookup "Context::is_empty_method_ref" = some 14899645592744463219 ∧
    Gen.CodegenUnionsSrc.hashes.lookup "fn generate_serialize" = some 8845667541932951564 ∧
    Gen.CodegenUnionsSrc.hashes.lookup "fn generate_deserialize" = some 1747443018369392234 ∧
    Gen.CodegenUnionsSrc.hashes.lookup "fn generate_variant" = some 6930639856905482540 ∧
    Gen.CodegenUnionsSrc.hashes.lookup "fn generate_unknown" = some 18391003750277147104 ∧
    Gen.CodegenAliasesSrc.hashes.lookup "fn generate" = some 9976687671691517758 ∧
    Gen.CodegenEnumsSrc.hashes.lookup "fn generate_enum" = some 17245761102995989051 ∧
    Gen.CodegenEnumsSrc.hashes.lookup "fn generate_unknown" = some 3862382788308395337 := by
  simp only [Gen.CodegenObjectsSrc.hashes, Gen.CodegenContextSrc.hashes, Gen.CodegenUnionsSrc.hashes,
    Gen.CodegenAliasesSrc.hashes, Gen.CodegenEnumsSrc.hashes, ↓List.lookup_cons_ite, ↓String.reduceEq, ↓reduceIte,
    and_self]

theorem C02_alias_transparent (defs : Defs) (cfg : Cfg) (fuel n : Nat) (t : CTy) (d : Doc)
    (h : defs[n]? = some (.alias t)) :
    canon defs cfg (fuel + 1) (.ref n) d = canon defs cfg fuel t d :=
  canon_ref_alias h d

/-- whether a field may be absent is decided by the aliased type: one step through an alias (and so, step by step,
through aliases of aliases) -/
theorem C02_shape_through_alias (defs : Defs) (fuel n : Nat) (t : CTy) (h : defs[n]? = some (.alias t)) :
    shape defs (fuel + 1) (.ref n) = shape defs fuel t :=
  shape_ref_alias h

theorem C02_integer_range (n : Int) : primOk .integer (.int n) = true ↔ -2147483648 ≤ n ∧ n ≤ 2147483647 :=
  decide_eq_true_iff

theorem C02_safelong_range (n : Int) :
    primOk .safelong (.int n) = true ↔ -9007199254740991 ≤ n ∧ n ≤ 9007199254740991 :=
  decide_eq_true_iff

/-- a binary field accepts exactly the canonical padded Base64 strings: `s` is accepted iff it is the text the
    encoder writes for some byte string (so wrong padding, a foreign alphabet or non-zero trailing bits reject) -/
theorem C02_binary_accepts_exactly_canonical (s : List Nat) :
    primOk .binary (.str s) = true ↔ ∃ bs : List Nat, (∀ b ∈ bs, b < 256) ∧ Base64.encode bs = s := by
  simp only [primOk, Option.isSome_iff_exists, Base64.decode_eq_some_iff]
  exact exists_congr fun _ => and_comm

example : primOk .binary (.str [65, 81, 73, 61]) = true ∧ primOk .binary (.str [65, 81, 74, 61]) = false ∧
    primOk .binary (.str [65, 81, 73]) = false := by decide

/-- a different JSON kind where a primitive is required is rejected: eight samples, and the empty object and array for
every primitive but `any` -/
theorem C02_prim_wrong_kind :
    primOk .string (.int 1) = false ∧ primOk .string .null = false ∧ primOk .integer (.str [49]) = false ∧
    primOk .integer (.dbl (.fin 0)) = false ∧ primOk .boolean (.str [116, 114, 117, 101]) = false ∧
    primOk .double (.bool true) = false ∧ primOk .uuid (.int 0) = false ∧ primOk .binary (.arr .nil) = false ∧
    (∀ p, p ≠ Prim.any → primOk p (.obj .nil) = false) ∧ (∀ p, p ≠ Prim.any → primOk p (.arr .nil) = false) := by
  refine ⟨rfl, rfl, rfl, rfl, rfl, rfl, rfl, rfl, ?_, ?_⟩ <;> intro p hp <;> cases p <;>
    first | rfl | exact absurd rfl hp

/-- a primitive in its specified encoding is its own canonical form, and nothing else of that type has one —
except a double written as an integer -/
theorem C02_prim_canonical (defs : Defs) (cfg : Cfg) (fuel : Nat) (p : Prim) (d : Doc)
    (h : ∀ n, ¬ (p = .double ∧ d = .int n)) :
    canon defs cfg (fuel + 1) (.prim p) d = if primOk p d then some d else none := by
  rw [canon, primCanon]
  -- `primCanon`'s general clause applies when the clause before it, for an integer where a double is wanted, does not
  exact fun n hp hd => h n ⟨hp, hd⟩

/-- a double may be written as an integer: one of magnitude below 2^53 (where the conversion is exact) is accepted and
re-serialized as the double with the bits `intBits n`; the result is a fixed point -/
theorem C02_double_accepts_integers (defs : Defs) (cfg : Cfg) (fuel : Nat) (n : Int)
    (h : -9007199254740991 ≤ n ∧ n ≤ 9007199254740991) :
    canon defs cfg (fuel + 1) (.prim .double) (.int n) = some (.dbl (.fin (intBits n))) ∧
    canon defs cfg (fuel + 1) (.prim .double) (.dbl (.fin (intBits n))) = some (.dbl (.fin (intBits n))) :=
  ⟨if_pos (decide_eq_true h), rfl⟩

example : intBits 3 = 0x4008000000000000 ∧ intBits (-3) = 0xC008000000000000 ∧ intBits 0 = 0 ∧ intBits 1 = 0x3FF0000000000000 ∧
    intBits 9007199254740991 = 0x433FFFFFFFFFFFFF ∧ intBits (-9007199254740991) = 0xC33FFFFFFFFFFFFF := by decide +kernel

theorem C02_enum (defs : Defs) (cfg : Cfg) (fuel n : Nat) (values : List Bytes) (s : Bytes)
    (h : defs[n]? = some (.enum values)) :
    canon defs cfg (fuel + 1) (.ref n) (.str s) =
      if values.contains s then some (.str s)
      else if !cfg.exhaustive && validVariant s then some (.str s) else none :=
  canon_enum_str h s

/-- an enum name that is neither listed nor well formed is rejected in every configuration -/
theorem C02_enum_malformed (defs : Defs) (cfg : Cfg) (fuel n : Nat) (values : List Bytes) (s : Bytes)
    (h : defs[n]? = some (.enum values)) (hl : values.contains s = false) (hv : validVariant s = false) :
    canon defs cfg (fuel + 1) (.ref n) (.str s) = none := by
  rw [C02_enum defs cfg fuel n values s h, hl, hv, Bool.and_false]; rfl

/-- a required field that is missing or `null` invalidates the document -/
theorem C02_required_missing_or_null (cfg : Cfg) (name : Bytes) (sub : Doc → Option Doc) :
    fieldPart cfg .required name none sub = none ∧ fieldPart cfg .required name (some .null) sub = none := ⟨rfl, rfl⟩

/-- an absent and a `null` optional are the same, and are omitted (written `null` only under
serialize-empty-collections, which the option's documentation extends to optionals) -/
theorem C02_optional_absent_eq_null (cfg : Cfg) (inner : CTy) (name : Bytes) (sub : Doc → Option Doc) :
    fieldPart cfg (.optional inner) name none sub = fieldPart cfg (.optional inner) name (some .null) sub ∧
    (cfg.serializeEmpty = false → fieldPart cfg (.optional inner) name none sub = some []) := by
  constructor
  · rfl
  · intro h; simp [fieldPart, h]

/-- an absent collection is the empty collection; empty collections are omitted unless serialize-empty-collections;
an explicit `null` is not a collection -/
theorem C02_collection_field (cfg : Cfg) (isMap : Bool) (name : Bytes) (sub : Doc → Option Doc)
    (hsub : sub (if isMap then Doc.obj .nil else Doc.arr .nil) = some (if isMap then Doc.obj .nil else Doc.arr .nil)) :
    (cfg.serializeEmpty = false → fieldPart cfg (.collection isMap) name none sub = some []) ∧
    (cfg.serializeEmpty = true → fieldPart cfg (.collection isMap) name none sub =
      some [(Key.text name, if isMap then Doc.obj .nil else Doc.arr .nil)]) ∧
    fieldPart cfg (.collection isMap) name (some .null) sub = none ∧
    (cfg.serializeEmpty = false →
      fieldPart cfg (.collection isMap) name (some (if isMap then Doc.obj .nil else Doc.arr .nil)) sub = some []) := by
  have absent : fieldPart cfg (.collection isMap) name none sub = some (if cfg.serializeEmpty then _ else []) :=
    congrArg (Option.map _) hsub
  refine ⟨fun h => ?_, fun h => ?_, rfl, fun h => ?_⟩
  · rw [absent, h]; rfl
  · rw [absent, h]; rfl
  · rw [fieldPart_some (by cases isMap <;> rintro ⟨⟩), hsub]
    cases isMap <;> exact congrArg some (if_pos (by rw [h]; rfl))

/-- a present required field is written under its declared name with the canonical form of its value -/
theorem C02_field_rename (cfg : Cfg) (name : Bytes) (v v' : Doc) (sub : Doc → Option Doc) (hv : v ≠ .null)
    (hs : sub v = some v') : fieldPart cfg .required name (some v) sub = some [(Key.text name, v')] := by
  rw [fieldPart_some hv, hs]; rfl

/-- **either member order**: `{"type": v, v: payload}` and `{v: payload, "type": v}` denote the same value -/
theorem C02_union_either_order (name : Bytes) (payload : Doc) (hn : Key.text name ≠ typeKey) :
    unionPick typeKey (.str name) (.text name) payload = some (name, payload) ∧
    unionPick (.text name) payload typeKey (.str name) = some (name, payload) :=
  -- member-first: the first member's name is not `type`, the second's is, and from there on the two are looked at as
  -- in the type-first order
  ⟨unionPick_typeFirst name payload, (if_neg fun e => hn (eq_of_beq e)).trans (unionPick_typeFirst name payload)⟩

/-- type and member disagree: rejected -/
theorem C02_union_disagree (name other : Bytes) (payload : Doc) (hne : other ≠ name) (ho : Key.text other ≠ typeKey) :
    unionPick typeKey (.str name) (.text other) payload = none ∧
    unionPick (.text other) payload typeKey (.str name) = none :=
  have typeFirst : unionPick typeKey (.str name) (.text other) payload = none :=
    (if_pos (beq_self_eq_true _)).trans (if_neg fun e => hne (eq_of_beq e))
  ⟨typeFirst, (if_neg fun e => ho (eq_of_beq e)).trans typeFirst⟩

/-- `type` must be a string (stated for the `type` member coming first) -/
theorem C02_union_type_not_string (k : Key) (v payload : Doc) (hv : ∀ s, v ≠ .str s) (_hk : k ≠ typeKey) :
    unionPick typeKey v k payload = none := by
  cases v <;> first | rfl | exact absurd rfl (hv _)

/-- a union document has exactly two members -/
theorem C02_union_member_count (defs : Defs) (cfg : Cfg) (fuel n : Nat) (variants : List (Bytes × CTy))
    (h : defs[n]? = some (.union variants)) (ms : Members) (hl : (members ms).length ≠ 2) :
    canon defs cfg (fuel + 1) (.ref n) (.obj ms) = none := by
  simp only [canon, h]
  split
  · next hm => exact absurd (congrArg List.length hm) hl
  · rfl

/-- the canonical union document is type-first, and a listed variant's payload is canonicalised by its type;
an unlisted variant survives unchanged unless the configuration is exhaustive -/
theorem C02_union_canonical (defs : Defs) (cfg : Cfg) (fuel n : Nat) (variants : List (Bytes × CTy))
    (h : defs[n]? = some (.union variants)) (name : Bytes) (payload : Doc) (hn : Key.text name ≠ typeKey) :
    canon defs cfg (fuel + 1) (.ref n) (.obj (.cons (.text name) payload (.cons typeKey (.str name) .nil))) =
      match variants.lookup name with
      | some t => (canon defs cfg fuel t payload).map
          (fun p' => .obj (.cons typeKey (.str name) (.cons (.text name) p' .nil)))
      | none => if cfg.exhaustive then none
          else some (.obj (.cons typeKey (.str name) (.cons (.text name) payload .nil))) :=
  canon_union_pick h (C02_union_either_order name payload hn).2

/-- **re-serialization is stable**: for any definitions whose objects have distinct field names, any configuration
(client or server, exhaustive or not, with or without empty collections), any type — however deeply nested or
recursive — and any accepted document, the canonical form is itself accepted and is its own canonical form.
(Of `canon`; generated types are tied to `canon` by the compiled correspondence the header names.) -/
theorem C02_canonical_is_fixed_point (defs : Defs) (cfg : Cfg) (wf : DefsWF defs) (fuel : Nat) (t : CTy) (d d' : Doc)
    (h : canon defs cfg fuel t d = some d') : canon defs cfg fuel t d' = some d' :=
  canon_idempotent defs cfg wf fuel t d d' h

/-- lists, sets and maps reject other JSON kinds: four samples (a list given an object or a string, a set given `null`,
a map given an array) -/
theorem C02_collection_wrong_kind (defs : Defs) (cfg : Cfg) (fuel : Nat) (t k : CTy) :
    canon defs cfg (fuel + 1) (.list t) (.obj .nil) = none ∧ canon defs cfg (fuel + 1) (.list t) (.str []) = none ∧
    canon defs cfg (fuel + 1) (.set t) .null = none ∧ canon defs cfg (fuel + 1) (.map k t) (.arr .nil) = none := by
  simp [canon]

/-! #### non-vacuity: an object with a required, an optional and a collection field, reached through an alias and
rejected without its required field; a union written member-first, accepted, and rejected when `type` disagrees -/
def exDefs : Defs := [
  .object [([97], .prim .integer), ([111], .optional (.prim .string)), ([108], .list (.prim .boolean))],
  .union [([118], .ref 0)],
  .alias (.ref 0)]
def exCfg : Cfg := { exhaustive := false, serializeEmpty := false, server := true }

example : DefsWF exDefs := by
  intro n fields h
  -- only definition 0 is an object
  rcases n with _ | _ | _ | n <;> cases h
  decide

example : (canon exDefs exCfg 20 (.ref 2) (.obj (.cons (.text [111]) .null (.cons (.text [97]) (.int 7) .nil)))).isSome = true := by
  decide +kernel
example : (canon exDefs exCfg 20 (.ref 0) (.obj (.cons (.text [111]) .null .nil))).isNone = true := by decide +kernel
example : (canon exDefs exCfg 20 (.ref 1)
    (.obj (.cons (.text [118]) (.obj (.cons (.text [97]) (.int 7) .nil)) (.cons typeKey (.str [118]) .nil)))).isSome = true := by
  decide +kernel
example : (canon exDefs exCfg 20 (.ref 1)
    (.obj (.cons (.text [118]) (.obj (.cons (.text [97]) (.int 7) .nil)) (.cons typeKey (.str [119]) .nil)))).isNone = true := by
  decide +kernel

end ConjureVerif.C02

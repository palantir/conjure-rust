import ConjureVerif.Lemmas.Base64
/-
The converse of `decode_encode`: the decoder accepts only the canonical spelling, so the text it accepts is
exactly the encoder's text for the bytes it returns, every byte it returns is below 256, and two accepted texts
with the same bytes are the same text (the strict `STANDARD` engine: canonical padding, zero trailing bits).
At the end, the length and the alphabet of the encoder's text (`encode_shape`).
-/
namespace ConjureVerif.Base64

theorem ch_val {c n : Nat} (h : val c = some n) : n < 64 ∧ ch n = c :=
  -- the alphabet ends at `z` (122): a table up to there, and beyond it `val` answers `none`
  if hc : c < 123 then (by decide +kernel : ∀ c < 123, ∀ n ∈ val c, n < 64 ∧ ch n = c) c hc n h
  else by
    rw [val, if_neg (by omega), if_neg (by omega), if_neg (by omega), if_neg (by omega), if_neg (by omega)] at h
    cases h

theorem encode_group (w : Nat) {x y z : Nat} (hx : x < 64) (hy : y < 64) (hz : z < 64) (bs : List Nat) :
    encode ((w * 4 + x / 16) :: (x % 16 * 16 + y / 4) :: (y % 4 * 64 + z) :: bs) =
      ch w :: ch x :: ch y :: ch z :: encode bs := by
  have hx' : x / 16 < 4 := Nat.div_lt_of_lt_mul hx
  have hy' : y / 4 < 16 := Nat.div_lt_of_lt_mul hy
  rw [encode, mul_add_div_of_lt hx', Nat.mul_add_mod_of_lt hx', mul_add_div_of_lt hy', Nat.mul_add_mod_of_lt hy',
    mul_add_div_of_lt hz, Nat.mul_add_mod_of_lt hz, Nat.div_add_mod', Nat.div_add_mod']

theorem encode_decode (s bs : List Nat) (h : decode s = some bs) : encode bs = s ∧ ∀ b ∈ bs, b < 256 := by
  fun_induction decode s generalizing bs with
  | case1 => cases h; exact ⟨rfl, List.forall_mem_nil _⟩
  | case2 w x w' x' hx hw hz =>  -- `[w, x, 61, 61]`, four trailing bits zero
    cases h
    obtain ⟨hw', rfl⟩ := ch_val hw
    obtain ⟨hx', rfl⟩ := ch_val hx
    have hx4 : x' / 16 < 4 := Nat.div_lt_of_lt_mul hx'
    simp only [encode, mul_add_div_of_lt hx4, Nat.mul_add_mod_of_lt hx4,
      Nat.div_mul_cancel (Nat.dvd_of_mod_eq_zero hz), List.forall_mem_cons, true_and]
    exact ⟨mul_add_lt hw' hx4, List.forall_mem_nil _⟩
  | case5 w x y _ w' x' y' hy hx hw hz =>  -- `[w, x, y, 61]`, two trailing bits zero
    cases h
    obtain ⟨hw', rfl⟩ := ch_val hw
    obtain ⟨hx', rfl⟩ := ch_val hx
    obtain ⟨hy', rfl⟩ := ch_val hy
    have hx4 : x' / 16 < 4 := Nat.div_lt_of_lt_mul hx'
    have hy4 : y' / 4 < 16 := Nat.div_lt_of_lt_mul hy'
    simp only [encode, mul_add_div_of_lt hx4, Nat.mul_add_mod_of_lt hx4, mul_add_div_of_lt hy4,
      Nat.mul_add_mod_of_lt hy4, Nat.div_add_mod', Nat.div_mul_cancel (Nat.dvd_of_mod_eq_zero hz),
      List.forall_mem_cons, true_and]
    exact ⟨mul_add_lt hw' hx4, mul_add_lt (Nat.mod_lt _ (by decide)) hy4, List.forall_mem_nil _⟩
  | case8 w x y z rest _ _ w' x' y' z' r hr hz hy hx hw ih =>  -- a full group, then `rest`
    cases h
    obtain ⟨hw', rfl⟩ := ch_val hw
    obtain ⟨hx', rfl⟩ := ch_val hx
    obtain ⟨hy', rfl⟩ := ch_val hy
    obtain ⟨hz', rfl⟩ := ch_val hz
    obtain ⟨rfl, ih2⟩ := ih r hr
    refine ⟨encode_group w' hx' hy' hz' r, ?_⟩
    simp only [List.forall_mem_cons]
    exact ⟨mul_add_lt hw' (Nat.div_lt_of_lt_mul hx'),
      mul_add_lt (Nat.mod_lt _ (by decide)) (Nat.div_lt_of_lt_mul hy'),
      mul_add_lt (Nat.mod_lt _ (by decide)) hz', ih2⟩
  -- every other branch of `decode` answers `none`
  | _ => cases h

theorem decode_injective (s t bs : List Nat) (hs : decode s = some bs) (ht : decode t = some bs) : s = t := by
  rw [← (encode_decode s bs hs).1, ← (encode_decode t bs ht).1]

theorem decode_eq_some_iff (s bs : List Nat) :
    decode s = some bs ↔ (encode bs = s ∧ ∀ b ∈ bs, b < 256) :=
  ⟨encode_decode s bs, fun h => h.1 ▸ decode_encode bs h.2⟩

def PlainChar (c : Nat) : Prop := 43 ≤ c ∧ c ≤ 122 ∧ c ≠ 92

/-- every alphabet character is a printable ASCII character other than `"` and `\` -/
theorem ch_plain (n : Nat) : PlainChar (ch n) :=
  if h : n < 64 then (by decide +kernel : ∀ n < 64, 43 ≤ ch n ∧ ch n ≤ 122 ∧ ch n ≠ 92) n h
  else by
    -- past the alphabet `ch` answers `/`
    rw [ch, if_neg (by omega), if_neg (by omega), if_neg (by omega), if_neg (by omega)]
    unfold PlainChar; decide

theorem pad_plain : PlainChar 61 := by unfold PlainChar; decide

/-- the text of a binary has four characters per started group of three bytes, and every character is printable
    ASCII that a JSON string or a header carries unescaped -/
theorem encode_shape : ∀ (bs : List Nat), (encode bs).length = 4 * ((bs.length + 2) / 3) ∧ ∀ c ∈ encode bs, PlainChar c := by
  intro bs
  fun_induction encode bs with
  | case4 a b c rest ih =>
    simp only [List.forall_mem_cons, ch_plain, true_and]
    refine ⟨?_, ih.2⟩
    -- three bytes more are one group more, and four characters more
    show (encode rest).length + 4 = 4 * ((rest.length + 2 + 3) / 3)
    rw [Nat.add_div_right _ (by decide : 0 < 3), ih.1]; rfl
  -- no byte, or a last group of one or two
  | _ =>
    simp only [List.forall_mem_cons, List.length_cons, List.length_nil, ch_plain, pad_plain, true_and]
    exact List.forall_mem_nil _

end ConjureVerif.Base64

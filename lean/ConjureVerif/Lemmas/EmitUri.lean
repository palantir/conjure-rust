import ConjureVerif.Lemmas.Emit
import ConjureVerif.Lemmas.Call
/-
The URI a generated client method builds (its `UriBuilder` calls, Model/Emit.lean) and the headers it writes are those
the request model of C04 starts from (`Call.uriBytes`, `Call.clientHeaders`): so the theorems about that model speak
about the generated code of every endpoint.
-/
namespace ConjureVerif.EmitUri
open ConjureVerif ConjureVerif.Emit

/-- what one client call does to the `UriBuilder`, given the PLAIN texts of each argument (by identifier):
`push_literal`, `push_path_parameter`, and one `push_*query_parameter` per supplied value -/
def pushesOf (tbl : List Nat) (txt : String → List Bytes) : Emit.Call → List Uri.Push
  | .lit (47 :: s) => [Uri.Push.literal [s]]
  | .pathParam (some i) => [Uri.Push.pathParam ((txt i).headD [])]
  | .query _ k i => (txt i).map (fun t => Uri.Push.queryParam (Uri.encode tbl k) t)
  | _ => []

/-- the endpoint's template as the request model (`Call`) sees it -/
def tmplOf (e : Endpoint) : List Call.TSeg :=
  (parsePath e.path).map (fun s => match s with | .lit l => Call.TSeg.lit l | .param n => Call.TSeg.param n)

/-- the decoder cardinality the generated server trait names for the argument (`serverArg`), in the endpoint model's
terms -/
def decOfAttr : SAttr → Endpoint.Dec
  | .query _ .one _ _ | .header _ .one _ _ => .one
  | .query _ (.opt _) _ _ | .header _ (.opt _) _ _ => .opt
  | .query _ .seq _ _ | .header _ .seq _ _ => .seq
  | .body .std _ _ => .std
  | .body (.opt _) _ _ => .optional
  | .body .binary _ _ => .binary
  | _ => .one

/-- an argument of the endpoint as the request model sees it: its texts, and its descriptor as the generated server
trait gives it (decoder, names); the PLAIN type and the safety of each argument are parameters -/
def cargOf (defs : Defs) (f : Nat) (ty : Arg → Endpoint.PTy) (safe : Arg → Bool) (kw : List String) (txt : String → List Bytes) (a : Arg) : Call.CArg :=
  { spec := { kind := match a.kind with | .path => .path | .query _ => .query | .header _ => .header | .body => .body,
              dec := decOfAttr (serverArg defs f kw a), ty := ty a,
              name := match a.kind with | .path => a.name | .query id => id | .header id => id.map lower | .body => [],
              logName := a.name, ident := strBytes (ident kw a), safe := safe a },
    texts := match a.kind with
      | .path => [(txt (ident kw a)).headD []]
      | _ => txt (ident kw a) }

/-- the text the client writes for the template parameter `n`: that of the path argument it names (the counterpart of
`Call.pathText`, see `pathText_cargOf`) -/
def paramText (kw : List String) (txt : String → List Bytes) (args : List Arg) (n : Bytes) : Bytes :=
  match args.find? (fun a => a.kind == .path && a.name == n) with
  | some a => (txt (ident kw a)).headD []
  | none => []

/-- the endpoint's auth argument as the request model sees it -/
def authCargs (auth : Auth) (tok : Bytes) : List Call.CArg :=
  match auth with
  | .none => []
  | .header => [{ spec := { kind := .auth, dec := .one, ty := .token, name := [], logName := [], ident := [], safe := false }, texts := [tok] }]
  | .cookie n => [{ spec := { kind := .cookie, dec := .one, ty := .token, name := n ++ [61], logName := [], ident := [], safe := false }, texts := [tok] }]

/-- what the header-writing calls of a client method produce: `encode_header_auth` / `encode_cookie_auth` /
`encode_header` / `encode_optional_header`, in order; `none`: a value HTTP cannot carry, the call is refused -/
def headersOf (txt : String → List Bytes) (tok : Bytes) : List Emit.Call → Option (List (Bytes × Bytes))
  | [] => some []
  | .headerAuth :: r => (headersOf txt tok r).map (fun hs => (Endpoint.authorization, Endpoint.bearer ++ tok) :: hs)
  | .cookieAuth p :: r => (headersOf txt tok r).map (fun hs => (Endpoint.cookie, p ++ tok) :: hs)
  | .header _ name i :: r =>
    if (txt i).all Call.headerValueOk then (headersOf txt tok r).map (fun hs => (txt i).map (fun t => (name, t)) ++ hs)
    else none
  | _ :: r => headersOf txt tok r

/-- one attribute of the generated trait method as the endpoint model's argument descriptor (what
`#[conjure_endpoints]` reads from it) -/
def specOfAttr (ty : Endpoint.PTy) (safe : Bool) : SAttr → Option Endpoint.ArgSpec
  | .endpoint .. => none
  | .auth none => some { kind := .auth, dec := .one, ty := .token, name := [], logName := [], ident := [], safe := false }
  | .auth (some c) => some { kind := .cookie, dec := .one, ty := .token, name := c ++ [61], logName := [], ident := [], safe := false }
  | a@(.path n i l) => some { kind := .path, dec := decOfAttr a, ty, name := n, logName := l.getD (strBytes i), ident := strBytes i, safe }
  | a@(.query id _ i l) => some { kind := .query, dec := decOfAttr a, ty, name := id, logName := l.getD (strBytes i), ident := strBytes i, safe }
  | a@(.header id _ i l) => some { kind := .header, dec := decOfAttr a, ty, name := id.map lower, logName := l.getD (strBytes i), ident := strBytes i, safe }
  | a@(.body _ i l) => some { kind := .body, dec := decOfAttr a, ty, name := [], logName := l.getD (strBytes i), ident := strBytes i, safe }
  | .context => some { kind := .context, dec := .one, ty := .str, name := [], logName := [], ident := [], safe := false }

variable (tbl : List Nat) (defs : Defs) (f : Nat) (ty : Arg → Endpoint.PTy) (safe : Arg → Bool) (kw : List String)
  (txt : String → List Bytes) (tok : Bytes)

/-- `hcur`: the pending literal text is empty or begins with `/`, as every literal `pathCalls` emits does; `pushesOf`
drops any other.  `hp`: a parameter that names no path argument would be `pathParam none`, which pushes nothing -/
theorem foldl_pathCalls (args : List Arg) (segs : List Seg) (cur : Bytes) (hcur : cur = [] ∨ ∃ s, cur = 47 :: s)
    (hp : ∀ n, Seg.param n ∈ segs → (args.find? (fun a => a.kind == .path && a.name == n)).isSome = true)
    (b : Uri.Builder) : ((pathCalls kw args segs cur).flatMap (pushesOf tbl txt)).foldl (Uri.Builder.push tbl) b =
      { b with buf := b.buf ++ cur ++ segs.flatMap (segBuf tbl (paramText kw txt args)) } := by
  induction segs generalizing cur b with
  | nil => rcases hcur with rfl | ⟨s, rfl⟩ <;> simp [pathCalls, pushesOf, Uri.Builder.push, Uri.joinSegs]
  | cons sg r ih =>
    have hp' := fun n hn => hp n (List.mem_cons_of_mem _ hn)
    cases sg with
    | lit l =>
      -- a literal joins the pending text, which then begins with `/` if it did not before
      rw [pathCalls, ih _ _ hp']
      · simp [segBuf]
      · rcases hcur with rfl | ⟨s, rfl⟩ <;> exact .inr ⟨_, rfl⟩
    | param n =>
      -- the pending text is pushed if there is any, then the argument's text, then the rest starts afresh
      obtain ⟨a, ha⟩ := Option.isSome_iff_exists.mp (hp n List.mem_cons_self)
      rw [pathCalls, List.flatMap_append, List.foldl_append, ih [] (.inl rfl) hp']
      rcases hcur with rfl | ⟨s, rfl⟩ <;> simp [pushesOf, Uri.Builder.push, Uri.joinSegs, segBuf, ha, paramText]

theorem pathText_cargOf (args : List Arg) (n : Bytes) :
    Call.pathText (args.map (cargOf defs f ty safe kw txt)) n = paramText kw txt args n := by
  have hc : (fun a : Call.CArg => a.spec.kind == .path && a.spec.name == n) ∘ cargOf defs f ty safe kw txt =
      fun a => a.kind == .path && a.name == n := by
    funext ⟨name, snake, kind, t⟩
    cases kind <;> rfl
  rw [Call.pathText, List.find?_map, hc, paramText]
  cases h : args.find? (fun a => a.kind == .path && a.name == n) with
  | none => rfl
  | some a =>
    -- the argument found passed the test, so it is a path argument, whose one text is the head of what `txt` gives
    obtain ⟨name, snake, kind, t⟩ := a
    cases kind with
    | path => rfl
    | _ => cases List.find?_some h

theorem pathBytes_tmpl (e : Endpoint) :
    Uri.pathBytes tbl (Call.uriReq (tmplOf e) (e.args.map (cargOf defs f ty safe kw txt))).segs =
      (parsePath e.path).flatMap (segBuf tbl (paramText kw txt e.args)) := by
  simp only [Uri.pathBytes, Call.uriReq, tmplOf, Uri.joinSegs, List.map_map, List.flatMap_def]
  congr 2
  funext s
  cases s <;> simp [segBuf, Uri.Seg.raw, pathText_cargOf]

theorem query_pushes (args : List Arg) :
    (queryCalls defs f kw args).flatMap (pushesOf tbl txt) =
      (Call.queryPairs (args.map (cargOf defs f ty safe kw txt))).map
        (fun kv => Uri.Push.queryParam (Uri.encode tbl kv.1) kv.2) := by
  unfold queryCalls Call.queryPairs
  induction args with
  | nil => rfl
  | cons a rest ih =>
    -- an argument that is no query argument is passed over by both sides
    obtain ⟨name, snake, kind, t⟩ := a
    cases kind with
    | query id =>
      rw [List.filterMap_cons, List.map_cons, List.filter_cons]
      simp [cargOf, ih, pushesOf, List.map_map, Function.comp_def]
    | _ => exact ih

theorem emit_uri (e : Endpoint)
    (hp : ∀ n, Seg.param n ∈ parsePath e.path → (e.args.find? (fun a => a.kind == .path && a.name == n)).isSome = true) :
    Uri.buildBuf tbl ((clientCalls defs f kw e).flatMap (pushesOf tbl txt)) =
      Call.uriBytes tbl (tmplOf e) (e.args.map (cargOf defs f ty safe kw txt)) := by
  obtain ⟨r, i, h0⟩ := setupRequest_req defs f kw e.args
  have hh : (headerCalls defs f kw e.auth e.args).flatMap (pushesOf tbl txt) = [] := by
    rw [headerCalls_append, List.flatMap_append, List.append_eq_nil_iff]
    refine ⟨by cases e.auth <;> rfl, List.flatMap_eq_nil_iff.mpr fun c hc => ?_⟩
    obtain ⟨o, n, i, rfl⟩ := headerCalls_mem defs f kw e.args c hc
    rfl
  rw [Call.uriBytes, Uri.buildBuf_eq, clientCalls]
  simp only [List.flatMap_append, List.flatMap_cons, List.flatMap_nil, h0, hh, pushesOf, List.nil_append, List.append_nil]
  rw [Uri.buildBuf, List.foldl_append, foldl_pathCalls tbl kw txt e.args _ [] (.inl rfl) hp,
    query_pushes tbl defs f ty safe, Uri.foldl_query _ _ _ rfl, pathBytes_tmpl tbl defs f ty safe]
  simp [Call.uriReq]

theorem uriBytes_auth (tmpl : List Call.TSeg) (auth : Auth) (cs : List Call.CArg) :
    Call.uriBytes tbl tmpl (authCargs auth tok ++ cs) = Call.uriBytes tbl tmpl cs := by
  unfold Call.uriBytes
  cases auth with
  | none => rfl
  | header | cookie => rw [authCargs, List.singleton_append, Call.uriReq_cons] <;> nofun

theorem headersOf_filter (cs : List Emit.Call) :
    headersOf txt tok (cs.filter (·.writesHeader)) = headersOf txt tok cs := by
  induction cs with
  | nil => rfl
  | cons c cs ih =>
    -- a call that writes a header is kept and does the same to both results; any other is dropped on the left and
    -- passed over on the right
    cases c with
    | headerAuth | cookieAuth => exact congrArg (Option.map _) ih
    | header o n i => exact congrArg (fun x => if (txt i).all Call.headerValueOk then Option.map _ x else none) ih
    | _ => exact ih

theorem headers_args (args : List Arg) :
    headersOf txt tok (headerCalls defs f kw .none args) = Call.clientHeaders (args.map (cargOf defs f ty safe kw txt)) := by
  induction args with
  | nil => rfl
  | cons a rest ih =>
    -- a header argument is one step of `headersOf` and one of `clientHeaders`; any other is passed over by both
    obtain ⟨name, snake, kind, t⟩ := a
    cases kind with
    | header id => rw [List.map_cons, Call.clientHeaders_cons, ← ih]; rfl
    | _ => exact ih

theorem emit_headers (e : Endpoint) :
    headersOf txt tok (clientCalls defs f kw e) =
      Call.clientHeaders (authCargs e.auth tok ++ e.args.map (cargOf defs f ty safe kw txt)) := by
  have := headers_args defs f ty safe kw txt tok e.args
  rw [← headersOf_filter, clientCalls_writesHeader, headerCalls_append]
  cases e.auth with
  | none => exact this
  | header => simp only [List.cons_append, List.nil_append, headersOf, this]; rfl
  | cookie n => simp only [List.cons_append, List.nil_append, headersOf, this]; rfl

end ConjureVerif.EmitUri

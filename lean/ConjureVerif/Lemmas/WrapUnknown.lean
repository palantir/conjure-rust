import ConjureVerif.Lemmas.WrapInject
/-
Unknown members.  `Near strict k r r'` relates what a reader returns for a document and for the same document with one
more undeclared member `k` below a struct (`Inject`): the same outcome where such members are skipped, `After` where
they are intercepted.  The readers' equations are in `Except.bind` form and `Near` passes through `bind` and `map`, so
one induction over `Inject` (`near`) serves the client and the server; `cli*`, `srvA*`, `srv*` are read off it.
-/
namespace ConjureVerif.Wrap
open ConjureVerif.Data

/-- how the outcome for a document relates to the outcome for the same document with one more undeclared member `k`
somewhere below a struct: the longer document is rejected naming `k`, or both are rejected with the same error (one
that is met before `k` is) -/
def After {α : Type} (k : List Nat) (r r' : Except DeErr α) : Prop :=
  r' = .error (.unknownField k) ∨ ∃ e, r = .error e ∧ r' = .error e

theorem After.through {α β : Type} {k : List Nat} {r r' : Except DeErr α} (g : Except DeErr α → Except DeErr β)
    (hg : ∀ e, g (.error e) = .error e) (h : After k r r') : After k (g r) (g r') := by
  rcases h with h | ⟨e, h1, h2⟩
  · exact Or.inl (by rw [h, hg])
  · exact Or.inr ⟨e, by rw [h1, hg], by rw [h2, hg]⟩

theorem After.of_ok {α : Type} {k : List Nat} {r r' : Except DeErr α} {v : α} (h : After k r r') (hv : r = .ok v) :
    r' = .error (.unknownField k) := by
  rcases h with h | ⟨e, h1, -⟩
  · exact h
  · rw [hv] at h1; cases h1

/-- the two outcomes under either policy: a reader that skips undeclared members returns the same with and without
`k`; one that intercepts them (`strict`) behaves as `After` says.  Only `deserialize_struct` on the server is strict,
so `Near (side == .server)` is what holds of `de` on both sides. -/
def Near {α : Type} (strict : Bool) (k : List Nat) (r r' : Except DeErr α) : Prop :=
  match strict with
  | true => After k r r'
  | false => r' = r

namespace Near
variable {α β : Type} {strict : Bool} {k : List Nat}

theorem same (e : DeErr) : Near (α := α) strict k (.error e) (.error e) := by
  cases strict
  · rfl
  · exact Or.inr ⟨e, rfl, rfl⟩

theorem bind {r r' : Except DeErr α} (h : Near strict k r r') (f : α → Except DeErr β) :
    Near strict k (r.bind f) (r'.bind f) := by
  cases strict
  · exact congrArg (·.bind f) h
  · exact After.through (·.bind f) (fun _ => rfl) h

theorem map {r r' : Except DeErr α} (h : Near strict k r r') (f : α → β) : Near strict k (r.map f) (r'.map f) := by
  cases strict
  · exact congrArg (·.map f) h
  · exact After.through (·.map f) (fun _ => rfl) h

/-- the part read before the extra member is met is the same in both documents -/
theorem bind_congr (r : Except DeErr α) {f f' : α → Except DeErr β} (h : ∀ v, Near strict k (f v) (f' v)) :
    Near strict k (r.bind f) (r.bind f') := by
  cases r
  · exact same _
  · exact h _

end Near

theorem Near.deM_cons {fmt : Fmt} {side : Side} {strict s : Bool} {fs : Fields} {k : List Nat} (key : Key) (x : Doc)
    {ms ms' : Members} (h : ∀ acc, Near s k (deM fmt side strict fs ms acc) (deM fmt side strict fs ms' acc))
    (acc : List (Nat × Val)) :
    Near s k (deM fmt side strict fs (.cons key x ms) acc) (deM fmt side strict fs (.cons key x ms') acc) := by
  cases key with
  | flt _ => rw [deM, deM]; exact .same _
  | text n =>
    rw [deM_text, deM_text]
    cases fieldIndex fs n 0 with
    | none =>
      cases strict
      · exact h acc
      · exact .same _
    | some p =>
      simp only
      split
      · exact .same _
      · exact .bind_congr _ fun _ => h _

theorem deM_insert (fmt : Fmt) (side : Side) (strict : Bool) (fs : Fields) {k : List Nat} (hk : k ∉ fs.names)
    {ms ms' : Members} {x : Doc} (hi : InsertM ms ms' k x) (acc : List (Nat × Val)) :
    Near strict k (deM fmt side strict fs ms acc) (deM fmt side strict fs ms' acc) := by
  induction hi generalizing acc with
  | here ms k x =>
    rw [deM_text, fieldIndex_none fs k 0 hk]
    cases strict
    · rfl
    · exact Or.inl rfl
  | there key v0 _ _ _ _ _ ih => exact .deM_cons key v0 (ih hk) acc

/-- **one more undeclared member, on either side**: the client returns what it returns without it; the server rejects
the document naming it, or rejects both with the same error. -/
theorem near (fmt : Fmt) (side : Side) :
    (∀ {t : Ty} {d d' : Doc} {k : List Nat}, Inject t d d' k →
      Near (side == .server) k (de fmt side t d) (de fmt side t d')) ∧
    (∀ {t : Ty} {xs xs' : Docs} {k : List Nat}, InjectL t xs xs' k →
      Near (side == .server) k (deL fmt side t xs) (deL fmt side t xs')) ∧
    (∀ {ts : Tys} {xs xs' : Docs} {k : List Nat}, InjectT ts xs xs' k →
      Near (side == .server) k (deT fmt side ts xs) (deT fmt side ts xs')) ∧
    (∀ {vt : Ty} {ms ms' : Members} {k : List Nat}, InjectMV vt ms ms' k → ∀ (kt : Ty),
      Near (side == .server) k (deE fmt side kt vt ms) (deE fmt side kt vt ms')) ∧
    (∀ {fs : Fields} {ms ms' : Members} {k : List Nat}, InjectF fs ms ms' k →
      ∀ (strict : Bool) (acc : List (Nat × Val)),
      Near (side == .server) k (deM fmt side strict fs ms acc) (deM fmt side strict fs ms' acc)) := by
  -- Induction on the derivation: no value argument decreases in every step (the option and newtype cases keep the
  -- document, a step along a sequence, tuple or member list keeps the type).  The five recursors take the same cases,
  -- one per constructor, and differ in which of the five statements they conclude; the motives are read off the
  -- statement.  (Written as a `mutual` block of five recursive theorems this is several times dearer to check: Lean
  -- then compiles the recursion through the `below` predicates.)
  refine ⟨@Inject.rec _ _ _ _ _ ?here ?option ?newtype ?seq ?tuple ?tupleStruct ?mapValue ?structField ?variantPayload
      ?structVariantField ?hereL ?thereL ?hereT ?thereT ?hereMV ?thereMV ?hereF ?thereF,
    @InjectL.rec _ _ _ _ _ ?here ?option ?newtype ?seq ?tuple ?tupleStruct ?mapValue ?structField ?variantPayload
      ?structVariantField ?hereL ?thereL ?hereT ?thereT ?hereMV ?thereMV ?hereF ?thereF,
    @InjectT.rec _ _ _ _ _ ?here ?option ?newtype ?seq ?tuple ?tupleStruct ?mapValue ?structField ?variantPayload
      ?structVariantField ?hereL ?thereL ?hereT ?thereT ?hereMV ?thereMV ?hereF ?thereF,
    @InjectMV.rec _ _ _ _ _ ?here ?option ?newtype ?seq ?tuple ?tupleStruct ?mapValue ?structField ?variantPayload
      ?structVariantField ?hereL ?thereL ?hereT ?thereT ?hereMV ?thereMV ?hereF ?thereF,
    @InjectF.rec _ _ _ _ _ ?here ?option ?newtype ?seq ?tuple ?tupleStruct ?mapValue ?structField ?variantPayload
      ?structVariantField ?hereL ?thereL ?hereT ?thereT ?hereMV ?thereMV ?hereF ?thereF⟩
  case here => intro fs ms ms' k x hk hi; rw [de_struct, de_struct]; exact (deM_insert fmt side _ fs hk hi []).bind _
  case option =>
    intro t d d' k hi ih; rw [de_option hi.not_null.1, de_option hi.not_null.2]; exact ih.map _
  case newtype | seq | tuple | tupleStruct => intro _ _ _ _ _ ih; simp only [de]; exact ih.map _
  case mapValue => intro kt _ _ _ _ _ ih; simp only [de]; exact (ih kt).map _
  case structField => intro fs ms ms' k _ ih; rw [de_struct, de_struct]; exact (ih _ []).bind _
  case variantPayload =>
    intro vs s i kind pty p p' k hf hk _ ih
    rcases hk with rfl | rfl <;> (simp only [de, hf]; exact ih.map _)
  case structVariantField =>
    intro vs s i fs ms ms' k hf _ ih
    rw [de_structVariant fmt side hf, de_structVariant fmt side hf]; exact (ih false []).bind _
  case hereL => intro t x x' xs k _ ih; rw [deL_cons, deL_cons]; exact ih.bind _
  case thereL => intro t x xs xs' k _ ih; rw [deL_cons, deL_cons]; exact .bind_congr _ fun _ => ih.map _
  case hereT => intro t ts x x' xs k _ ih; rw [deT_cons, deT_cons]; exact ih.bind _
  case thereT => intro t ts x xs xs' k _ ih; rw [deT_cons, deT_cons]; exact .bind_congr _ fun _ => ih.map _
  case hereMV => intro vt key x x' ms k _ ih kt; rw [deE_cons, deE_cons]; exact .bind_congr _ fun _ => ih.bind _
  case thereMV =>
    intro vt key x ms ms' k _ ih kt
    rw [deE_cons, deE_cons]; exact .bind_congr _ fun _ => .bind_congr _ fun _ => (ih kt).map _
  case hereF =>
    intro fs n i t x x' ms k hf _ ih strict acc
    rw [deM_text, deM_text]; simp only [hf]
    split
    · exact .same _
    · exact ih.bind _
  case thereF => intro fs key x ms ms' k _ ih strict acc; exact .deM_cons key x (ih strict) acc

theorem cli (fmt : Fmt) {t : Ty} {d d' : Doc} {k : List Nat} (hi : Inject t d d' k) :
    de fmt .client t d' = de fmt .client t d := (near fmt .client).1 hi

theorem cliL (fmt : Fmt) : ∀ {t : Ty} {xs xs' : Docs} {k : List Nat}, InjectL t xs xs' k →
    deL fmt .client t xs' = deL fmt .client t xs := (near fmt .client).2.1

theorem cliT (fmt : Fmt) : ∀ {ts : Tys} {xs xs' : Docs} {k : List Nat}, InjectT ts xs xs' k →
    deT fmt .client ts xs' = deT fmt .client ts xs := (near fmt .client).2.2.1

theorem cliMV (fmt : Fmt) (kt : Ty) : ∀ {vt : Ty} {ms ms' : Members} {k : List Nat}, InjectMV vt ms ms' k →
    deE fmt .client kt vt ms' = deE fmt .client kt vt ms :=
  fun hi => (near fmt .client).2.2.2.1 hi kt

theorem cliF (fmt : Fmt) : ∀ {fs : Fields} {ms ms' : Members} {k : List Nat}, InjectF fs ms ms' k →
    ∀ (strict : Bool) (acc : List (Nat × Val)),
      deM fmt .client strict fs ms' acc = deM fmt .client strict fs ms acc := (near fmt .client).2.2.2.2

/-- whatever the server made of the original document, not only when it accepted it (`srv`) -/
theorem srvA (fmt : Fmt) : ∀ {t : Ty} {d d' : Doc} {k : List Nat}, Inject t d d' k →
    After k (de fmt .server t d) (de fmt .server t d') := (near fmt .server).1

theorem srvAL (fmt : Fmt) : ∀ {t : Ty} {xs xs' : Docs} {k : List Nat}, InjectL t xs xs' k →
    After k (deL fmt .server t xs) (deL fmt .server t xs') := (near fmt .server).2.1

theorem srvAT (fmt : Fmt) : ∀ {ts : Tys} {xs xs' : Docs} {k : List Nat}, InjectT ts xs xs' k →
    After k (deT fmt .server ts xs) (deT fmt .server ts xs') := (near fmt .server).2.2.1

theorem srvAMV (fmt : Fmt) (kt : Ty) : ∀ {vt : Ty} {ms ms' : Members} {k : List Nat}, InjectMV vt ms ms' k →
    After k (deE fmt .server kt vt ms) (deE fmt .server kt vt ms') :=
  fun hi => (near fmt .server).2.2.2.1 hi kt

theorem srvAF (fmt : Fmt) : ∀ {fs : Fields} {ms ms' : Members} {k : List Nat}, InjectF fs ms ms' k →
    ∀ (strict : Bool) (acc : List (Nat × Val)),
      After k (deM fmt .server strict fs ms acc) (deM fmt .server strict fs ms' acc) := (near fmt .server).2.2.2.2

theorem srv (fmt : Fmt) : ∀ {t : Ty} {d d' : Doc} {k : List Nat}, Inject t d d' k →
    ∀ v, de fmt .server t d = .ok v → de fmt .server t d' = .error (.unknownField k) :=
  fun hi _ h => (srvA fmt hi).of_ok h

theorem srvL (fmt : Fmt) : ∀ {t : Ty} {xs xs' : Docs} {k : List Nat}, InjectL t xs xs' k →
    ∀ vs, deL fmt .server t xs = .ok vs → deL fmt .server t xs' = .error (.unknownField k) :=
  fun hi _ h => (srvAL fmt hi).of_ok h

theorem srvT (fmt : Fmt) : ∀ {ts : Tys} {xs xs' : Docs} {k : List Nat}, InjectT ts xs xs' k →
    ∀ vs, deT fmt .server ts xs = .ok vs → deT fmt .server ts xs' = .error (.unknownField k) :=
  fun hi _ h => (srvAT fmt hi).of_ok h

theorem srvMV (fmt : Fmt) (kt : Ty) : ∀ {vt : Ty} {ms ms' : Members} {k : List Nat}, InjectMV vt ms ms' k →
    ∀ es, deE fmt .server kt vt ms = .ok es → deE fmt .server kt vt ms' = .error (.unknownField k) :=
  fun hi _ h => (srvAMV fmt kt hi).of_ok h

theorem srvF (fmt : Fmt) : ∀ {fs : Fields} {ms ms' : Members} {k : List Nat}, InjectF fs ms ms' k →
    ∀ (strict : Bool) (acc r : List (Nat × Val)), deM fmt .server strict fs ms acc = .ok r →
      deM fmt .server strict fs ms' acc = .error (.unknownField k) :=
  fun hi strict acc _ h => (srvAF fmt hi strict acc).of_ok h

end ConjureVerif.Wrap

import ConjureVerif.Model.GenOrder
/-
Lemmas about the generator model.  Lookups do not see the order of a hash map.  The renaming of a type's module always
reaches a name no submodule has.  A property of names that the inserted names have holds of every name in the trie
(`Trie.All`), through any sequence of insertions, and the components of every rendered path are made of those names.
-/
namespace ConjureVerif.GenOrder

theorem Table.get_eq_some_iff {κ ν : Type} [BEq κ] [LawfulBEq κ] (t : Table κ ν) (hn : (t.map (·.1)).Nodup)
    (k : κ) (b : ν) : t.get k = some b ↔ (k, b) ∈ t := by
  rw [Table.get, List.lookup_eq_some_iff]
  constructor
  · rintro ⟨l₁, l₂, rfl, -⟩
    simp
  · intro h
    obtain ⟨l₁, l₂, rfl⟩ := List.append_of_mem h
    -- the key does not occur before
    rw [List.map_append, List.map_cons, List.nodup_append] at hn
    exact ⟨l₁, l₂, rfl, fun p hp => bne_iff_ne.mpr fun e =>
      hn.2.2 p.1 (List.mem_map_of_mem hp) k List.mem_cons_self e.symm⟩

theorem Table.get_perm {κ ν : Type} [BEq κ] [LawfulBEq κ] {t t' : Table κ ν} (hp : t.Perm t')
    (hn : (t.map (·.1)).Nodup) : t.get = t'.get :=
  funext fun k => Option.ext fun b => by
    rw [get_eq_some_iff t hn, get_eq_some_iff t' ((hp.map _).nodup_iff.mp hn), hp.mem_iff]

theorem append_us_succ (t : String) (k : Nat) : t ++ "_" ++ us k = t ++ us (k + 1) := by
  apply String.ext_iff.mpr; simp [us, List.replicate_succ]

theorem fresh_form (n : Nat) (taken : List String) (t : String) : ∃ k, fresh n taken t = t ++ us k := by
  fun_induction fresh n taken t with
  | case1 | case3 => exact ⟨0, String.append_empty.symm⟩      -- no round left, or `t` is free
  | case2 n taken t _ ih =>
    obtain ⟨k, hk⟩ := ih
    exact ⟨k + 1, hk.trans (append_us_succ t k)⟩

/-- how many of the taken names are at least as long as `t` -/
def longer : List String → String → Nat
  | [], _ => 0
  | s :: r, t => (if t.length ≤ s.length then 1 else 0) + longer r t

theorem longer_le_length (taken : List String) (t : String) : longer taken t ≤ taken.length := by
  fun_induction longer taken t with
  | case1 => exact Nat.le_refl _
  | case2 s r t ih => rw [List.length_cons]; split <;> omega

/-- one more underscore outgrows exactly the taken names that are as long as `t` -/
theorem longer_step (taken : List String) (t : String) :
    longer taken t = longer taken (t ++ "_") + taken.countP (·.length == t.length) := by
  fun_induction longer taken t with
  | case1 => rfl
  | case2 s r t ih =>
    have hl : (t ++ "_").length = t.length + 1 := String.length_append t "_"
    simp only [longer, hl, List.countP_cons, ih, beq_iff_eq]
    -- of the three indicators, `t ≤ s` is the sum of `t + 1 ≤ s` and `s = t`
    grind

theorem fresh_not_mem : ∀ (n : Nat) (taken : List String) (t : String), longer taken t < n → fresh n taken t ∉ taken := by
  intro n taken t h
  fun_induction fresh n taken t with
  | case1 => omega      -- no round left
  | case2 n taken t hc ih =>
    -- `t` is taken, so it is itself among the names outgrown
    have : 0 < taken.countP (·.length == t.length) :=
      List.countP_pos_iff.mpr ⟨t, List.contains_iff_mem.mp hc, beq_self_eq_true _⟩
    exact ih (by have := longer_step taken t; omega)
  | case3 n taken t hc => exact fun hm => hc (List.contains_iff_mem.mpr hm)

/-- **the module a type is written to is never the name of a submodule beside it** -/
theorem typeModule_not_mem (subs : List String) (t : String) : typeModule subs t ∉ subs :=
  fresh_not_mem _ subs t (Nat.lt_succ_of_le (longer_le_length subs t))

theorem typeModule_form (subs : List String) (t : String) : ∃ k, typeModule subs t = t ++ us k :=
  fresh_form _ subs t

theorem typeModule_eq (subs : List String) (t : String) (h : t ∉ subs) : typeModule subs t = t := by
  unfold typeModule fresh
  rw [if_neg (fun hc => h (List.contains_iff_mem.mp hc))]

/-- every type's (unrenamed) module name in the trie satisfies `P`, every submodule name `Q` -/
def Trie.All (P Q : String → Prop) (t : Trie) : Prop := (∀ n ∈ t.typeNames, P n) ∧ ∀ c ∈ t.modNames, Q c

def Subs.All (P Q : String → Prop) (s : Subs) : Prop := (∀ n ∈ s.typeNames, P n) ∧ ∀ c ∈ s.modNames, Q c

section All
variable {P Q : String → Prop}

theorem Trie.all_node {types subs} : (Trie.node types subs).All P Q ↔ (∀ ty ∈ types, P ty.1) ∧ subs.All P Q := by
  simp only [Trie.All, Subs.All, Trie.typeNames, Trie.modNames, List.forall_mem_append, List.forall_mem_map, and_assoc]

theorem Subs.all_nil : Subs.nil.All P Q := by simp [Subs.All, Subs.typeNames, Subs.modNames]

theorem Subs.all_cons {k t more} : (Subs.cons k t more).All P Q ↔ Q k ∧ t.All P Q ∧ more.All P Q := by
  simp only [Trie.All, Subs.All, Subs.typeNames, Subs.modNames, List.forall_mem_append, List.forall_mem_cons]
  constructor
  · rintro ⟨⟨a, b⟩, ⟨c, d⟩, e⟩
    exact ⟨c, ⟨a, d⟩, b, e⟩
  · rintro ⟨c, ⟨a, d⟩, b, e⟩
    exact ⟨⟨a, b⟩, ⟨c, d⟩, e⟩

theorem Trie.all_empty : Trie.empty.All P Q := Trie.all_node.mpr ⟨List.forall_mem_nil _, Subs.all_nil⟩

/-- the `BTreeMap` entry: wherever the key falls in the sorted list, what the insertion below keeps is kept -/
theorem Subs.all_insert {m rest ty} (hm : Q m) (ih : ∀ t, t.All P Q → (Trie.insert rest ty t).All P Q) (s : Subs)
    (h : s.All P Q) : (Subs.insert m rest ty s).All P Q := by
  -- `Subs` is a mutual type, so no `induction`; `Subs.names` recurses along the list of submodules alone, as this does
  fun_induction Subs.names s with
  | case1 =>
    simp only [Subs.insert]
    exact Subs.all_cons.mpr ⟨hm, ih _ Trie.all_empty, Subs.all_nil⟩
  | case2 k t more ihm =>
    obtain ⟨hk, ht, hmore⟩ := Subs.all_cons.mp h
    simp only [Subs.insert]
    split
    · exact Subs.all_cons.mpr ⟨hm, ih _ Trie.all_empty, h⟩
    · split
      · exact Subs.all_cons.mpr ⟨hk, ih t ht, hmore⟩
      · exact Subs.all_cons.mpr ⟨hk, ht, ihm hmore⟩

/-- **insertion keeps every property of the names that the inserted names have** (recursion on the path alone: the
trie below a fresh submodule is not part of the old one) -/
theorem Trie.all_insert (ty : String × String) (hty : P ty.1) (path : List String) (t : Trie)
    (hp : ∀ c ∈ path, Q c) (h : t.All P Q) : (Trie.insert path ty t).All P Q := by
  induction path generalizing t with
  | nil =>
    obtain ⟨types, subs⟩ := t
    obtain ⟨h1, h2⟩ := Trie.all_node.mp h
    simp only [Trie.insert]
    exact Trie.all_node.mpr ⟨List.forall_mem_append.mpr ⟨h1, List.forall_mem_singleton.mpr hty⟩, h2⟩
  | cons m rest ih =>
    obtain ⟨types, subs⟩ := t
    obtain ⟨h1, h2⟩ := Trie.all_node.mp h
    simp only [Trie.insert]
    exact Trie.all_node.mpr ⟨h1, Subs.all_insert (hp m List.mem_cons_self)
      (fun t => ih t fun c hc => hp c (List.mem_cons_of_mem _ hc)) subs h2⟩

theorem Trie.all_foldl_insert {ι : Type} (path : ι → List String) (ty : ι → String × String) (items : List ι)
    (h : ∀ it ∈ items, (∀ c ∈ path it, Q c) ∧ P (ty it).1) :
    (items.foldl (fun t it => Trie.insert (path it) (ty it) t) Trie.empty).All P Q :=
  List.foldlRecOn items _ Trie.all_empty fun t ht it hit => Trie.all_insert _ (h it hit).2 _ t (h it hit).1 ht

end All

theorem insertSubs_typeNames : ∀ (m : String) (rest : List String) (ty : String × String) (s : Subs) (n : String),
    n ∈ (Subs.insert m rest ty s).typeNames → n ∈ s.typeNames ∨ n = ty.1 := fun _ rest ty s =>
  (Subs.all_insert (P := fun n => n ∈ s.typeNames ∨ n = ty.1) (Q := fun _ => True) trivial
    (fun t => Trie.all_insert ty (.inr rfl) rest t fun _ _ => trivial) s ⟨fun _ => .inl, fun _ _ => trivial⟩).1

/-- a component of a rendered path: the root file, a submodule, or a type's module file (possibly renamed) -/
def IsComponentS (s : Subs) (c : String) : Prop :=
  c = "mod.rs" ∨ c ∈ s.modNames ∨ ∃ n ∈ s.typeNames, ∃ k, c = n ++ us k ++ ".rs"

mutual
/-- every file lies beneath `dir`, and what holds of the root file, of every submodule name and of every type's module
file under any renaming holds of every further component of its path -/
theorem Trie.render_comps {R : String → Prop} (h0 : R "mod.rs") (t : Trie) (dir : List String)
    (p : List String × String) (h : t.All (fun n => ∀ k, R (n ++ us k ++ ".rs")) R) (hp : p ∈ t.render dir) :
    ∃ comps, p.1 = dir ++ comps ∧ comps ≠ [] ∧ ∀ c ∈ comps, R c := by
  cases t with
  | node types subs =>
    obtain ⟨h1, h2⟩ := Trie.all_node.mp h
    simp only [Trie.render, List.mem_append, List.mem_map, List.mem_singleton] at hp
    rcases hp with (⟨ty, hty, rfl⟩ | hs) | rfl
    · obtain ⟨k, hk⟩ := typeModule_form (Subs.names subs) ty.1
      exact ⟨[_], rfl, List.cons_ne_nil _ _, List.forall_mem_singleton.mpr (hk ▸ h1 ty hty k)⟩
    · exact Subs.render_comps h0 subs dir p h2 hs
    · exact ⟨["mod.rs"], rfl, List.cons_ne_nil _ _, List.forall_mem_singleton.mpr h0⟩
theorem Subs.render_comps {R : String → Prop} (h0 : R "mod.rs") (s : Subs) (dir : List String)
    (p : List String × String) (h : s.All (fun n => ∀ k, R (n ++ us k ++ ".rs")) R) (hp : p ∈ s.render dir) :
    ∃ comps, p.1 = dir ++ comps ∧ comps ≠ [] ∧ ∀ c ∈ comps, R c := by
  cases s with
  | nil => exact (List.not_mem_nil hp).elim
  | cons name t rest =>
    obtain ⟨hk, ht, hrest⟩ := Subs.all_cons.mp h
    simp only [Subs.render, List.mem_append] at hp
    rcases hp with hp | hp
    · obtain ⟨comps, h1, _, h3⟩ := Trie.render_comps h0 t (dir ++ [name]) p ht hp
      exact ⟨name :: comps, by simp [h1], List.cons_ne_nil _ _, List.forall_mem_cons.mpr ⟨hk, h3⟩⟩
    · exact Subs.render_comps h0 rest dir p hrest hp
end

theorem renderSubs_beneath : ∀ (s : Subs) (dir : List String) (p : List String × String), p ∈ s.render dir →
    ∃ comps, p.1 = dir ++ comps ∧ comps ≠ [] ∧ ∀ c ∈ comps, IsComponentS s c := fun s dir p =>
  Subs.render_comps (.inl rfl) s dir p ⟨fun n hn k => .inr (.inr ⟨n, hn, k, rfl⟩), fun _ hc => .inr (.inl hc)⟩

theorem renderRoot_mem (lib : Bool) (t : Trie) (dir : List String) (p : List String × String)
    (h : p ∈ t.renderRoot lib dir) : p ∈ t.render dir ∨ p.1 = dir ++ ["lib.rs"] := by
  cases t with
  | node types subs =>
    simp only [Trie.renderRoot, Trie.render, List.mem_append, List.mem_singleton] at h ⊢
    rcases h with h | h
    · exact .inl (.inl h)
    · cases lib
      · exact .inl (.inr h)
      · exact .inr (by rw [h]; rfl)

theorem safe_of_length (s : String) (hl : 3 ≤ s.toList.length) (hb : s.toList.any badChar = false) :
    safeComponent s = true := by
  unfold safeComponent
  generalize s.toList = l at hl hb
  match l, hl with
  | _ :: _ :: _ :: _, _ => simp [hb]

theorem safe_renamed (n : String) (hn : n.toList.any badChar = false) (k : Nat) :
    safeComponent (n ++ us k ++ ".rs") = true := by
  apply safe_of_length
  · simp [us]; omega
  · simp [us, hn, badChar]

/-- **when module-path components are safe and module names hold no separator, every file of the trie built from the
items is written beneath `dir`, through safe components only** -/
theorem render_safe {ι : Type} (path : ι → List String) (ty : ι → String × String) (items : List ι)
    (h : ∀ it ∈ items, (∀ c ∈ path it, safeComponent c = true) ∧ (ty it).1.toList.any badChar = false)
    (dir : List String) (p : List String × String)
    (hp : p ∈ (items.foldl (fun t it => Trie.insert (path it) (ty it) t) Trie.empty).render dir) :
    ∃ comps, p.1 = dir ++ comps ∧ comps ≠ [] ∧ ∀ c ∈ comps, safeComponent c = true :=
  Trie.render_comps (by decide +kernel) _ dir p
    (Trie.all_foldl_insert path ty items fun it hit => ⟨(h it hit).1, safe_renamed _ (h it hit).2⟩) hp

/-- a name without its trailing underscores -/
def core (s : String) : List Char := (s.toList.reverse.dropWhile (· == '_')).reverse

theorem core_append_us (t : String) (k : Nat) : core (t ++ us k) = core t := by
  -- reversed, the `k` underscores come first, and `dropWhile` takes them off (`List.dropWhile_append_of_pos`)
  simp [core, us]

theorem core_typeModule (subs : List String) (t : String) : core (typeModule subs t) = core t := by
  obtain ⟨k, hk⟩ := typeModule_form subs t
  rw [hk, core_append_us]

end ConjureVerif.GenOrder

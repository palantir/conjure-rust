import ConjureVerif.Model.Uri
/-
Facts about Model/Uri that hold of any escape set.  Escaping: decoding inverts it (`decode_encode`), and an escaped text
consists of `%`, hex digits and the bytes outside the set (`forall_mem_encode`), from which every "holds no delimiter"
fact comes.  Splitting: a first piece and then pieces each behind a delimiter split back into exactly those pieces
(`splitOn_sepBy`), and conversely splitting loses nothing (`splitOn_spec`).  The builder in closed form (`build_eq`).
At the end three facts about the values a list of pairs holds under a key (`under_pairs`, `under_flatMap`,
`filter_key_unique`), which the query and header theorems of C04 and C07 share.
-/
namespace ConjureVerif.Uri

theorem unhexD_hexDigit : ∀ n, n < 16 → unhexD (hexDigit n) = some n := by decide

/-- percent-decoding inverts percent-encoding for every byte string, for any set that contains `%` -/
theorem decode_encode (tbl : List Nat) (hpct : 37 ∈ tbl) (bs : List Nat)
    (hb : ∀ b ∈ bs, b < 256) : decode (encode tbl bs) = bs := by
  induction bs with
  | nil => rfl
  | cons b bs ih =>
    rw [List.forall_mem_cons] at hb
    unfold encode
    split
    · rw [decode, unhexD_hexDigit _ (Nat.div_lt_of_lt_mul hb.1), unhexD_hexDigit _ (Nat.mod_lt _ (by decide)), ih hb.2]
      exact congrArg (· :: bs) (Nat.div_add_mod' b 16)
    · rename_i hns
      rw [decode, ih hb.2]
      -- `decode`'s equation for a plain byte holds when the shape `37 :: _ :: _ :: _` before it does not match, which
      -- `rw` leaves to show: a byte kept as it is is no `%`
      rintro h l rest ⟨rfl, -⟩
      simp [inSet, hpct] at hns

theorem length_le_encode (tbl v : List Nat) : v.length ≤ (encode tbl v).length := by
  induction v with
  | nil => exact Nat.le_refl _
  | cons b bs ih =>
    unfold encode
    split
    · exact Nat.le_succ_of_le (Nat.le_succ_of_le (Nat.succ_le_succ ih))
    · exact Nat.succ_le_succ ih

theorem forall_mem_encode {P : Nat → Prop} (tbl bs : List Nat) (hb : ∀ b ∈ bs, b < 256) (h37 : P 37)
    (hhex : ∀ n, n < 16 → P (hexDigit n)) (hraw : ∀ b ∈ bs, inSet tbl b = false → P b) :
    ∀ x ∈ encode tbl bs, P x := by
  induction bs with
  | nil => simp [encode]
  | cons b bs ih =>
    rw [List.forall_mem_cons] at hb hraw
    unfold encode
    split
    · simp only [List.forall_mem_cons]
      exact ⟨h37, hhex _ (Nat.div_lt_of_lt_mul hb.1), hhex _ (Nat.mod_lt _ (by decide)), ih hb.2 hraw.2⟩
    · rename_i h
      exact List.forall_mem_cons.mpr ⟨hraw.1 (by simpa using h), ih hb.2 hraw.2⟩

theorem not_mem_encode (tbl bs : List Nat) (hb : ∀ b ∈ bs, b < 256) {d : Nat}
    (hd : d ∈ tbl) (h37 : 37 ≠ d) (hhex : ∀ n, n < 16 → hexDigit n ≠ d) : d ∉ encode tbl bs :=
  fun hx => forall_mem_encode (P := (· ≠ d)) tbl bs hb h37 hhex
    (fun b _ hs e => by simp [inSet, e, hd] at hs) d hx rfl

theorem splitOn_eq_cons (d : Nat) (s : List Nat) : ∃ p ps, splitOn d s = p :: ps := by
  cases s with
  | nil => exact ⟨_, _, rfl⟩
  | cons b bs => unfold splitOn; split <;> (try split) <;> exact ⟨_, _, rfl⟩

theorem splitOn_not_mem (d : Nat) (s : List Nat) (h : d ∉ s) : splitOn d s = [s] := by
  induction s with
  | nil => rfl
  | cons b bs ih =>
    rw [List.mem_cons, not_or] at h
    simp [splitOn, Ne.symm h.1, ih h.2]

theorem splitOn_append (d : Nat) (s r : List Nat) (h : d ∉ s) :
    splitOn d (s ++ d :: r) = s :: splitOn d r := by
  induction s with
  | nil => simp [splitOn]
  | cons b bs ih =>
    rw [List.mem_cons, not_or] at h
    simp [splitOn, Ne.symm h.1, ih h.2]

theorem splitOn_sepBy {α : Type} (d : Nat) (f : α → List Nat) (l : List α) (h : ∀ a ∈ l, d ∉ f a)
    (p : List Nat) (hp : d ∉ p) : splitOn d (p ++ (l.map (fun a => d :: f a)).flatten) = p :: l.map f := by
  induction l generalizing p with
  | nil => simpa using splitOn_not_mem d p hp
  | cons a l ih =>
    rw [List.forall_mem_cons] at h
    rw [List.map_cons, List.flatten_cons, List.cons_append, splitOn_append d p _ hp, ih h.2 _ h.1, List.map_cons]

theorem not_mem_sepBy {α : Type} {d x : Nat} (hx : x ≠ d) (f : α → List Nat) {l : List α} (h : ∀ a ∈ l, x ∉ f a) :
    x ∉ (l.map (fun a => d :: f a)).flatten := by
  simp only [List.mem_flatten, List.mem_map]
  rintro ⟨_, ⟨a, ha, rfl⟩, hm⟩
  exact (List.mem_cons.mp hm).elim hx (h a ha)

theorem splitOn_joinSegs (segs : List (List Nat)) (h : ∀ s ∈ segs, 47 ∉ s) :
    splitOn 47 (joinSegs segs) = [] :: segs :=
  (splitOn_sepBy 47 id segs h [] List.not_mem_nil).trans (by rw [List.map_id])

theorem splitOn_spec (d : Nat) (s : List Nat) :
    (∀ p ∈ splitOn d s, d ∉ p) ∧ ((splitOn d s).map (d :: ·)).flatten = d :: s := by
  induction s with
  | nil => exact ⟨List.forall_mem_cons.mpr ⟨List.not_mem_nil, List.forall_mem_nil _⟩, rfl⟩
  | cons b bs ih =>
    obtain ⟨x, xs, hx⟩ := splitOn_eq_cons d bs
    unfold splitOn
    rw [hx] at ih ⊢
    split
    · rename_i e
      exact ⟨List.forall_mem_cons.mpr ⟨List.not_mem_nil, ih.1⟩, e ▸ congrArg (d :: ·) ih.2⟩
    · rename_i e
      rw [List.forall_mem_cons] at ih ⊢
      exact ⟨⟨fun h => (List.mem_cons.mp h).elim (Ne.symm e) ih.1.1, ih.1.2⟩,
        congrArg (d :: b :: ·) (List.tail_eq_of_cons_eq ih.2)⟩

theorem splitFirst_not_mem (d : Nat) (a : List Nat) (h : d ∉ a) : splitFirst d a = (a, none) := by
  induction a with
  | nil => rfl
  | cons b bs ih =>
    rw [List.mem_cons, not_or] at h
    simp [splitFirst, Ne.symm h.1, ih h.2]

theorem splitFirst_append (d : Nat) (a r : List Nat) (h : d ∉ a) :
    splitFirst d (a ++ d :: r) = (a, some r) := by
  induction a with
  | nil => simp [splitFirst]
  | cons b bs ih =>
    rw [List.mem_cons, not_or] at h
    simp [splitFirst, Ne.symm h.1, ih h.2]

theorem plusToSpace_id (bs : List Nat) (h : 43 ∉ bs) : plusToSpace bs = bs :=
  (List.map_congr_left fun b hb => if_neg fun e : b = 43 => h (e ▸ hb)).trans (List.map_id' bs)

theorem build_eq (tbl : List Nat) (ps : List Push) :
    build tbl ps = if (buildBuf tbl ps).head? = some 47 ∧ (buildBuf tbl ps).length ≤ maxUriLen
      then .uri (buildBuf tbl ps) else .panic := by
  simp only [build]
  split
  · rename_i h; simp [h]
  · rename_i h
    rw [if_neg]
    rintro ⟨h', -⟩
    obtain ⟨ys, hy⟩ := List.head?_eq_some_iff.mp h'
    exact h ys hy

theorem build_pathParam_long (tbl v : List Nat) (h : maxUriLen ≤ v.length) : build tbl [.pathParam v] = .panic := by
  rw [build_eq, if_neg]
  -- the buffer is `/` and the escaped value, which is no shorter than the value
  exact fun h' => Nat.not_succ_le_self _ (Nat.le_trans h'.2 (Nat.le_trans h (length_le_encode tbl v)))

theorem under_pairs {κ β : Type} [BEq κ] (k k' : κ) (ts : List β) :
    ((ts.map (fun t => (k', t))).filter (fun kv => kv.1 == k)).map (·.2) = if k' == k then ts else [] := by
  rw [List.filter_map, List.map_map]
  cases h : k' == k <;> simp [Function.comp_def, h]

/-- when each element contributes pairs, those under `k` come from the elements `p` selects, each giving `g` -/
theorem under_flatMap {α κ β : Type} [BEq κ] (k : κ) (f : α → List (κ × β)) (p : α → Bool) (g : α → List β)
    (l : List α) (h : ∀ a ∈ l, ((f a).filter (fun kv => kv.1 == k)).map (·.2) = if p a then g a else []) :
    ((l.flatMap f).filter (fun kv => kv.1 == k)).map (·.2) = (l.filter p).flatMap g := by
  induction l with
  | nil => rfl
  | cons a l ih =>
    rw [List.forall_mem_cons] at h
    rw [List.flatMap_cons, List.filter_append, List.map_append, h.1, ih h.2, List.filter_cons]
    cases p a <;> simp

theorem filter_key_unique {α κ : Type} [BEq κ] [LawfulBEq κ] (key : α → κ) (l : List α) (hn : (l.map key).Nodup)
    (a : α) (ha : a ∈ l) : l.filter (fun b => key b == key a) = [a] := by
  obtain ⟨s, t, rfl⟩ := List.append_of_mem ha
  rw [List.map_append, List.map_cons, List.nodup_append, List.nodup_cons] at hn
  -- no element of `s` or of `t` has the key of `a`
  exact List.filter_eq_cons_iff.mpr ⟨s, t, rfl,
    fun b hb e => hn.2.2 _ (List.mem_map_of_mem hb) _ List.mem_cons_self (eq_of_beq e), beq_self_eq_true _,
    List.filter_eq_nil_iff.mpr fun b hb e => hn.2.1.1 (List.mem_map.mpr ⟨b, hb, eq_of_beq e⟩)⟩

end ConjureVerif.Uri

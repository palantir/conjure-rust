import ConjureVerif.Lemmas.WrapRoundTrip
/-
The relation C05 is stated with: `Inject t d d' k`, "`d'` is `d` with one more member `k` in an object that is read as a
struct which does not declare `k`", with one companion per way the readers descend (`deL`, `deT`, `deE`, `deM`).
-/
namespace ConjureVerif.Wrap
open ConjureVerif.Data

/-- `ms'` is `ms` with one extra member `k ↦ x` inserted at some position -/
inductive InsertM : Members → Members → List Nat → Doc → Prop
  | here (ms : Members) (k : List Nat) (x : Doc) : InsertM ms (.cons (.text k) x ms) k x
  | there (k0 : Key) (v0 : Doc) (ms ms' : Members) (k : List Nat) (x : Doc) :
      InsertM ms ms' k x → InsertM (.cons k0 v0 ms) (.cons k0 v0 ms') k x

mutual
  /-- `d'` is `d` with one extra member named `k` (holding any document) added to an object that the
      deserializer reads through `deserialize_struct` as a struct type not declaring `k` — at any depth
      below optionals, sequences, tuples, map values, newtypes, struct fields and variant payloads -/
  inductive Inject : Ty → Doc → Doc → List Nat → Prop
    | here (fs : Fields) (ms ms' : Members) (k : List Nat) (x : Doc) :
        k ∉ fs.names → InsertM ms ms' k x → Inject (.struct fs) (.obj ms) (.obj ms') k
    | option (t : Ty) (d d' : Doc) (k : List Nat) : Inject t d d' k → Inject (.option t) d d' k
    | newtype (t : Ty) (d d' : Doc) (k : List Nat) : Inject t d d' k → Inject (.newtype t) d d' k
    | seq (t : Ty) (xs xs' : Docs) (k : List Nat) : InjectL t xs xs' k → Inject (.seq t) (.arr xs) (.arr xs') k
    | tuple (ts : Tys) (xs xs' : Docs) (k : List Nat) : InjectT ts xs xs' k → Inject (.tuple ts) (.arr xs) (.arr xs') k
    | tupleStruct (ts : Tys) (xs xs' : Docs) (k : List Nat) :
        InjectT ts xs xs' k → Inject (.tupleStruct ts) (.arr xs) (.arr xs') k
    | mapValue (kt vt : Ty) (ms ms' : Members) (k : List Nat) :
        InjectMV vt ms ms' k → Inject (.map kt vt) (.obj ms) (.obj ms') k
    | structField (fs : Fields) (ms ms' : Members) (k : List Nat) :
        InjectF fs ms ms' k → Inject (.struct fs) (.obj ms) (.obj ms') k
    -- not for `kind = .struct`: `de` reads the members of a struct variant itself, without interception, so a member
    -- added there is skipped on both sides; below its declared fields see `structVariantField`
    | variantPayload (vs : Variants) (s : List Nat) (i : Nat) (kind : VKind) (pty : Ty) (p p' : Doc) (k : List Nat) :
        vs.find? s 0 = some (i, kind, pty) → (kind = .newtype ∨ kind = .tuple) → Inject pty p p' k →
        Inject (.enum vs) (.obj (.cons (.text s) p .nil)) (.obj (.cons (.text s) p' .nil)) k
    | structVariantField (vs : Variants) (s : List Nat) (i : Nat) (fs : Fields) (ms ms' : Members) (k : List Nat) :
        vs.find? s 0 = some (i, .struct, .struct fs) → InjectF fs ms ms' k →
        Inject (.enum vs) (.obj (.cons (.text s) (.obj ms) .nil)) (.obj (.cons (.text s) (.obj ms') .nil)) k
  inductive InjectL : Ty → Docs → Docs → List Nat → Prop
    | here (t : Ty) (x x' : Doc) (xs : Docs) (k : List Nat) : Inject t x x' k → InjectL t (.cons x xs) (.cons x' xs) k
    | there (t : Ty) (x : Doc) (xs xs' : Docs) (k : List Nat) : InjectL t xs xs' k → InjectL t (.cons x xs) (.cons x xs') k
  inductive InjectT : Tys → Docs → Docs → List Nat → Prop
    | here (t : Ty) (ts : Tys) (x x' : Doc) (xs : Docs) (k : List Nat) :
        Inject t x x' k → InjectT (.cons t ts) (.cons x xs) (.cons x' xs) k
    | there (t : Ty) (ts : Tys) (x : Doc) (xs xs' : Docs) (k : List Nat) :
        InjectT ts xs xs' k → InjectT (.cons t ts) (.cons x xs) (.cons x xs') k
  inductive InjectMV : Ty → Members → Members → List Nat → Prop
    | here (vt : Ty) (key : Key) (x x' : Doc) (ms : Members) (k : List Nat) :
        Inject vt x x' k → InjectMV vt (.cons key x ms) (.cons key x' ms) k
    | there (vt : Ty) (key : Key) (x : Doc) (ms ms' : Members) (k : List Nat) :
        InjectMV vt ms ms' k → InjectMV vt (.cons key x ms) (.cons key x ms') k
  /-- inside the value of a declared field of `fs` -/
  inductive InjectF : Fields → Members → Members → List Nat → Prop
    | here (fs : Fields) (n : List Nat) (i : Nat) (t : Ty) (x x' : Doc) (ms : Members) (k : List Nat) :
        fieldIndex fs n 0 = some (i, t) → Inject t x x' k →
        InjectF fs (.cons (.text n) x ms) (.cons (.text n) x' ms) k
    | there (fs : Fields) (key : Key) (x : Doc) (ms ms' : Members) (k : List Nat) :
        InjectF fs ms ms' k → InjectF fs (.cons key x ms) (.cons key x ms') k
end

theorem Inject.not_null : ∀ {t : Ty} {d d' : Doc} {k : List Nat}, Inject t d d' k → d ≠ .null ∧ d' ≠ .null
  | _, _, _, _, h => by
    cases h with
    | option _ _ _ _ h | newtype _ _ _ _ h => exact h.not_null      -- these two keep the document
    | _ => exact ⟨Doc.noConfusion, Doc.noConfusion⟩
-- on the type, not on the derivation: see `rt` in Lemmas/WrapRoundTrip.lean.  Unlike there the derivation is matched:
-- taken by `fun` and split by `cases`, the premise of the option and newtype cases shares `d d' k` with the
-- conclusion, and the recursion compiles to a term the kernel rejects
termination_by structural t => t

end ConjureVerif.Wrap

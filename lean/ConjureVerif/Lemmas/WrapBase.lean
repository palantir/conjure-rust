import ConjureVerif.Model.Wrap
import ConjureVerif.Lemmas.Base64
import ConjureVerif.Lemmas.Plain
/-
What the proofs about `Wrap.ser` / `Wrap.de` share before any recursion over types.  The one idea is how a struct is
read back: the reader looks every member name up in the whole field list and collects `(index, value)` pairs, so the
round trip of a struct needs that the fields still to be written stand at consecutive indices of that list
(`FieldsAt`, from distinct names by `fieldsAt`) and that `assemble` turns the pairs `enumFrom k vs` back into `vs`.
-/

namespace ConjureVerif.Data

def Fields.append : Fields → Fields → Fields
  | .nil, gs => gs
  | .cons n t fs, gs => .cons n t (fs.append gs)

def Fields.length : Fields → Nat
  | .nil => 0
  | .cons _ _ fs => fs.length + 1

def Fields.snoc (fs : Fields) (n : List Nat) (t : Ty) : Fields := fs.append (.cons n t .nil)

/- `Fields` is one of four mutual types, so `induction` does not apply; `fun_induction Fields.append a b` is the
induction on `a`. -/
theorem Fields.append_assoc (a b c : Fields) : (a.append b).append c = a.append (b.append c) := by
  fun_induction Fields.append a b with
  | case1 => rfl
  | case2 m s _ _ ih => exact congrArg (Fields.cons m s) ih

theorem Fields.length_append (a b : Fields) : (a.append b).length = a.length + b.length := by
  fun_induction Fields.append a b with
  | case1 => exact (Nat.zero_add _).symm
  | case2 _ _ _ _ ih => exact (congrArg (· + 1) ih).trans (Nat.add_right_comm ..)

theorem Fields.names_append (a b : Fields) : (a.append b).names = a.names ++ b.names := by
  fun_induction Fields.append a b with
  | case1 => rfl
  | case2 m _ _ _ ih => exact congrArg (m :: ·) ih

theorem Fields.names_snoc (a : Fields) (n : List Nat) (t : Ty) : (a.snoc n t).names = a.names ++ [n] :=
  Fields.names_append a _

end ConjureVerif.Data

namespace ConjureVerif.Wrap
open ConjureVerif.Data

@[simp] theorem map_ok {α β ε : Type} (f : α → β) (a : α) : Except.map f (.ok a : Except ε α) = .ok (f a) := rfl
@[simp] theorem map_error {α β ε : Type} (f : α → β) (e : ε) : Except.map f (.error e : Except ε α) = .error e := rfl

def Bytes (bs : List Nat) : Prop := ∀ b ∈ bs, b < 256

/-- a serializer is a function: what holds of the result exhibited holds of any it is said to return -/
theorem of_eq_some {α : Type} {o : Option α} {P : α → Prop} (h : ∃ a, o = some a ∧ P a) (a : α) (ha : o = some a) :
    P a :=
  h.elim fun _ h => Option.some.inj (h.1.symm.trans ha) ▸ h.2

theorem ser_unitVariant {fmt : Fmt} {vs : Variants} {i : Nat} {name : List Nat} {pty : Ty}
    (hg : vs.get? i = some (name, .unit, pty)) : ser fmt (.enum vs) (.variant i .unit) = some (.str name) := by
  rw [ser, hg]

theorem ser_variant {fmt : Fmt} {vs : Variants} {i : Nat} {name : List Nat} {kind : VKind} {pty : Ty} {p : Val} {d : Doc}
    (hg : vs.get? i = some (name, kind, pty)) (h : ser fmt pty p = some d) (hk : kind ≠ .unit := by decide) :
    ser fmt (.enum vs) (.variant i p) = some (.obj (.cons (.text name) d .nil)) := by
  cases kind with
  | unit => exact absurd rfl hk
  | _ => simp only [ser, hg, h, Option.map_some]

theorem fieldIndex_none (fs : Fields) (n : List Nat) (i0 : Nat) (h : n ∉ fs.names) : fieldIndex fs n i0 = none := by
  fun_induction fieldIndex fs n i0 with
  | case1 => rfl
  | case2 => exact (h List.mem_cons_self).elim
  | case3 m _ fs _ _ _ ih => exact ih fun hm => h (List.mem_cons_of_mem m hm)

theorem fieldIndex_append (pre : Fields) (n : List Nat) (t : Ty) (rest : Fields) (i0 : Nat) (h : n ∉ pre.names) :
    fieldIndex (pre.append (.cons n t rest)) n i0 = some (i0 + pre.length, t) := by
  generalize hr : Fields.cons n t rest = r      -- `fun_induction` wants variables for arguments
  fun_induction Fields.append pre r generalizing i0 with
  | case1 => subst hr; exact if_pos rfl
  | case2 m s fs _ ih =>
    rw [Fields.names, List.mem_cons, not_or] at h
    rw [fieldIndex, if_neg (Ne.symm h.1), ih (i0 + 1) h.2 hr, Fields.length, Nat.add_right_comm, Nat.add_assoc]

/-- `(k, v₀), (k+1, v₁), …` -/
def enumFrom : Nat → FVals → List (Nat × Val)
  | _, .nil => []
  | k, .cons v vs => (k, v) :: enumFrom (k + 1) vs

theorem lookup_lt {acc : List (Nat × Val)} {k : Nat} (h : ∀ p ∈ acc, p.1 < k) : acc.lookup k = none :=
  List.lookup_eq_none_iff.mpr fun p hp => bne_iff_ne.mpr (Nat.ne_of_gt (h p hp))

theorem lt_snoc {acc : List (Nat × Val)} {k : Nat} (h : ∀ p ∈ acc, p.1 < k) (v : Val) : ∀ p ∈ acc ++ [(k, v)], p.1 < k + 1 :=
  fun p hp => (List.mem_append.mp hp).elim (fun hp => Nat.lt_succ_of_lt (h p hp)) fun hp =>
    List.mem_singleton.mp hp ▸ Nat.lt_succ_self k

/-- the declared fields `fs` stand at the indices `k, k+1, …` of the field list `all` that a struct reader (`deM`,
`toValM`) looks member names up in -/
def FieldsAt (all : Fields) : Nat → Fields → Prop
  | _, .nil => True
  | k, .cons n t fs => fieldIndex all n 0 = some (k, t) ∧ FieldsAt all (k + 1) fs

theorem fieldsAt_append (pre : Fields) {fs : Fields} (hnd : (pre.append fs).names.Nodup) :
    FieldsAt (pre.append fs) pre.length fs := by
  fun_induction Fields.length fs generalizing pre with      -- induction on `fs`; each field moves over to `pre`
  | case1 => trivial
  | case2 n t fs ih =>
    have hn : n ∉ pre.names := fun hm =>
      (List.nodup_append.mp (Fields.names_append pre _ ▸ hnd)).2.2 n hm n List.mem_cons_self rfl
    have := ih (pre.snoc n t) (Fields.append_assoc pre _ fs ▸ hnd)
    rw [Fields.snoc, Fields.append_assoc, Fields.length_append] at this
    exact ⟨by rw [fieldIndex_append pre n t fs 0 hn, Nat.zero_add], this⟩

theorem fieldsAt {fs : Fields} (hnd : fs.names.Nodup) : FieldsAt fs 0 fs := fieldsAt_append .nil hnd

theorem lookup_enumFrom_lt : ∀ (vs : FVals) (k j : Nat), j < k → (enumFrom k vs).lookup j = none := by
  intro vs k j h
  fun_induction enumFrom k vs with
  | case1 => rfl
  | case2 _ _ _ ih => rw [List.lookup_cons, beq_false_of_ne (Nat.ne_of_lt h)]; exact ih (Nat.lt_succ_of_lt h)

end ConjureVerif.Wrap

import ConjureVerif.Model.Any
import ConjureVerif.Lemmas.WrapShape
/-
The dynamic value `Any` (namespace `AnyM`, as in Model/Any.lean).  `anySpec`: what `Any::new` stores of a typed value
reads back as that value and has its JSON.  `jsonAnyJson`: a JSON document read into an `Any` is written back as it
was, provided no object names a member twice (`DistinctKeys`, which C10 and C13 state their theorems with).
-/
namespace ConjureVerif.AnyM
open ConjureVerif.Data ConjureVerif.Wrap

theorem toVal_option {t : Ty} {a : Any} (h : a ≠ .null) : toVal (.option t) a = (toVal t a).map Val.some := by
  rw [toVal]; exact h

/-- keys: stored natively by `Any::new`, read back by `KeyDeserializer`, and written to JSON under the text the
serializer gives the key -/
theorem toValKey_ofVal {kt : Ty} {k : Val} (h : KeyOk kt k) :
    ∃ a, ofVal kt k = some a ∧ toValKey kt a = .ok k ∧ anyKey a = serKey kt k := by
  induction h with
  | bool b => exact ⟨.bool b, rfl, rfl, by cases b <;> rfl⟩
  | int w n hw => exact ⟨.int w n, rfl, if_pos hw, rfl⟩
  | f64 _ | f32 _ | str _ | bytes _ _ => exact ⟨_, rfl, rfl, rfl⟩
  | uuid bs hl hb =>
    exact ⟨.str (Plain.uuidText bs), rfl, by simp only [toValKey, Plain.uuidParse_uuidText bs hl hb], rfl⟩
  | newtype t v _ ih =>
    obtain ⟨a, h1, h2, h3⟩ := ih
    exact ⟨a, h1, by simp only [toValKey, h2, map_ok], h3⟩
  | unitVariant vs i name pty hg hd =>
    exact ⟨.str name, by simp only [ofVal, toValKey, anyKey, serKey, hg, hd i name .unit pty hg, and_self]⟩

/-- the single-entry map `Any::new` makes of a non-unit variant is written as the externally tagged object -/
theorem toJson_tagged (name : List Nat) (a : Any) :
    toJson (.map (.cons (.str name) a .nil)) = (toJson a).map fun d => .obj (.cons (.text name) d .nil) := by
  simp only [toJson, toJsonE, anyKey]; cases toJson a <;> rfl

mutual
  /-- **lossless carrier, same document**: `Any::new` stores a value as a dynamic value from which `deserialize_into`
  returns the original, and whose JSON is the JSON of the original -/
  theorem anySpec : ∀ {t : Ty} {v : Val}, HasTy t v →
      ∃ a, ofVal t v = some a ∧ toVal t a = .ok v ∧ toJson a = ser .json t v :=
    fun h => by
      cases h with
      | bool _ | str _ | unit | none _ | unitStruct => exact ⟨_, rfl, by simp only [toVal], rfl⟩
      | f64 _ | f32 _ | bytes _ _ => exact ⟨_, rfl, by simp only [toVal]; rfl, rfl⟩
      | int w n hw => exact ⟨.int w n, rfl, by simp only [toVal, hw, if_true], rfl⟩
      | uuid bs hl hb =>
        exact ⟨.str (Plain.uuidText bs), rfl, by simp only [toVal, Plain.uuidParse_uuidText bs hl hb], rfl⟩
      | some t v hv hn =>
        obtain ⟨a, h1, h2, h3⟩ := anySpec hv
        -- the payload is not stored as `null`: its JSON would be `null`, which `hn` excludes
        have ha : a ≠ .null := by rintro rfl; exact hn .json h3.symm
        exact ⟨a, h1, by rw [toVal_option ha, h2]; rfl, h3⟩
      | newtype t v hv =>
        obtain ⟨a, h1, h2, h3⟩ := anySpec hv
        exact ⟨a, h1, by simp only [toVal, h2, map_ok], h3⟩
      | seq t vs hl =>
        obtain ⟨as, h⟩ := anySpecL hl
        exact ⟨.seq as, by simp only [ofVal, toVal, toJson, ser, h, Option.map_some, map_ok, and_self]⟩
      | tuple ts vs ht | tupleStruct ts vs ht =>
        obtain ⟨as, h⟩ := anySpecT ht
        exact ⟨.seq as, by simp only [ofVal, toVal, toJson, ser, h, Option.map_some, map_ok, and_self]⟩
      | map kt vt es he =>
        obtain ⟨as, h⟩ := anySpecE he
        exact ⟨.map as, by simp only [ofVal, toVal, toJson, ser, h, Option.map_some, map_ok, and_self]⟩
      | struct fs vs hnd hf =>
        obtain ⟨es, h1, h3, h2⟩ := anySpecF hf
        have h2 : toValM fs es [] = .ok (enumFrom 0 vs) := h2 fs 0 (fieldsAt hnd) [] (List.forall_mem_nil _)
        exact ⟨.map es, by
          simp only [ofVal, toVal, toJson, ser, h1, h2, h3, assemble_enum hf, Option.map_some, map_ok, and_self]⟩
      | unitVariant vs i name pty hg hd =>
        exact ⟨.str name, by simp only [ofVal, toVal, toJson, ser, hg, hd i name .unit pty hg, and_self]⟩
      | newtypeVariant vs i name pty p hg hd hp =>
        obtain ⟨a, h⟩ := anySpec hp
        refine ⟨.map (.cons (.str name) a .nil), ?_⟩
        rw [toJson_tagged]
        simp only [ofVal, toVal, ser, hg, hd i name .newtype pty hg, h, Option.map_some, map_ok, and_self]
      | tupleVariant vs i name ts ps hg hd ht =>
        obtain ⟨as, h⟩ := anySpecT ht
        refine ⟨.map (.cons (.str name) (.seq as) .nil), ?_⟩
        rw [toJson_tagged]
        simp only [ofVal, toVal, toJson, ser, hg, hd i name .tuple (.tuple ts) hg, h, Option.map_some, map_ok, and_self]
      | structVariant vs i name fs ps hg hd hnd hf =>
        obtain ⟨es, h1, h3, h2⟩ := anySpecF hf
        have h2 : toValM fs es [] = .ok (enumFrom 0 ps) := h2 fs 0 (fieldsAt hnd) [] (List.forall_mem_nil _)
        refine ⟨.map (.cons (.str name) (.map es) .nil), ?_⟩
        rw [toJson_tagged]
        simp only [ofVal, toVal, toJson, ser, hg, hd i name .struct (.struct fs) hg, h1, h2, h3, assemble_enum hf,
          Option.map_some, map_ok, and_self]
  -- recursion on the value, as in `ofVal`: far cheaper to check than recursion on the derivation
  termination_by structural _ v => v
  theorem anySpecL : ∀ {t : Ty} {vs : Vals}, HasTyL t vs →
      ∃ as, ofValL t vs = some as ∧ toValL t as = .ok vs ∧ toJsonL as = serL .json t vs :=
    fun h => by
      cases h with
      | nil t => exact ⟨.nil, rfl, by rw [toValL], rfl⟩
      | cons t v vs hv hl =>
        obtain ⟨a, h⟩ := anySpec hv
        obtain ⟨as, h'⟩ := anySpecL hl
        exact ⟨.cons a as, by simp only [ofValL, toValL, toJsonL, serL, h, h', map_ok, true_and]; rfl⟩
  termination_by structural _ vs => vs
  theorem anySpecT : ∀ {ts : Tys} {vs : Vals}, HasTyT ts vs →
      ∃ as, ofValT ts vs = some as ∧ toValT ts as = .ok vs ∧ toJsonL as = serT .json ts vs :=
    fun h => by
      cases h with
      | nil => exact ⟨.nil, rfl, by rw [toValT], rfl⟩
      | cons t ts v vs hv ht =>
        obtain ⟨a, h⟩ := anySpec hv
        obtain ⟨as, h'⟩ := anySpecT ht
        exact ⟨.cons a as, by simp only [ofValT, toValT, toJsonL, serT, h, h', map_ok, true_and]; rfl⟩
  termination_by structural _ vs => vs
  theorem anySpecE : ∀ {kt vt : Ty} {es : Entries}, HasTyE kt vt es →
      ∃ as, ofValE kt vt es = some as ∧ toValE kt vt as = .ok es ∧ toJsonE as = serE .json kt vt es :=
    fun h => by
      cases h with
      | nil kt vt => exact ⟨.nil, rfl, by rw [toValE], rfl⟩
      | cons kt vt k v es hk hv he =>
        obtain ⟨ka, hka⟩ := toValKey_ofVal hk
        obtain ⟨a, h⟩ := anySpec hv
        obtain ⟨as, h'⟩ := anySpecE he
        exact ⟨.cons ka a as, by simp only [ofValE, toValE, toJsonE, serE, hka, h, h', map_ok, true_and]; rfl⟩
  termination_by structural _ _ es => es
  /-- the entries stored for the fields `fs`, which stand at `k, k+1, …` in a struct's field list `all`, are read back,
  in order, as those indices with the original values -/
  theorem anySpecF : ∀ {fs : Fields} {vs : FVals}, HasTyF fs vs →
      ∃ es, ofValF fs vs = some es ∧ toJsonE es = serF .json fs vs ∧
        ∀ all k, FieldsAt all k fs → ∀ (acc : List (Nat × Val)), (∀ p ∈ acc, p.1 < k) →
          toValM all es acc = .ok (acc ++ enumFrom k vs) :=
    fun h => by
      cases h with
      | nil =>
        exact ⟨.nil, rfl, rfl, fun _ _ _ acc _ => by rw [toValM]; exact congrArg _ (List.append_nil acc).symm⟩
      | cons n t fs v vs hv hf =>
        obtain ⟨a, h1, h2, h3⟩ := anySpec hv
        obtain ⟨es, h4, h6, h5⟩ := anySpecF hf
        refine ⟨.cons (.str n) a es, by simp only [ofValF, h1, h4], ?_, fun all k hat acc hacc => ?_⟩
        · simp only [toJsonE, serF, h3, h6]; cases ser .json t v <;> cases serF .json fs vs <;> rfl
        · simp only [toValM, hat.1, lookup_lt hacc, h2, h5 all _ hat.2 _ (lt_snoc hacc v), Option.isSome_none,
            Bool.false_eq_true, if_false]
          exact congrArg _ (List.append_assoc ..)
  termination_by structural _ vs => vs
end

/-- **lossless carrier**: `Any::new` then `deserialize_into` returns the original value -/
theorem anyRt : ∀ {t : Ty} {v : Val}, HasTy t v → ∃ a, ofVal t v = some a ∧ toVal t a = .ok v :=
  fun h => (anySpec h).imp fun _ h => ⟨h.1, h.2.1⟩

theorem anyRtM : ∀ (pre : Fields) {fs : Fields} {vs : FVals},
    HasTyF fs vs → (pre.append fs).names.Nodup → ∀ (acc : List (Nat × Val)), (∀ p ∈ acc, p.1 < pre.length) →
    ∃ es, ofValF fs vs = some es ∧ toValM (pre.append fs) es acc = .ok (acc ++ enumFrom pre.length vs) :=
  fun pre _ _ hf hnd acc hacc => (anySpecF hf).imp fun _ h => ⟨h.1, h.2.2 _ _ (fieldsAt_append pre hnd) acc hacc⟩

/-- **same document**: the JSON of `Any::new(v)` is the JSON of `v` -/
theorem anyJson : ∀ {t : Ty} {v : Val}, HasTy t v → ∀ a, ofVal t v = some a → toJson a = ser .json t v :=
  fun h a ha => (of_eq_some (anySpec h) a ha).2

theorem anyJsonL : ∀ {t : Ty} {vs : Vals}, HasTyL t vs → ∀ as, ofValL t vs = some as → toJsonL as = serL .json t vs :=
  fun h as ha => (of_eq_some (anySpecL h) as ha).2

theorem anyJsonT : ∀ {ts : Tys} {vs : Vals}, HasTyT ts vs → ∀ as, ofValT ts vs = some as → toJsonL as = serT .json ts vs :=
  fun h as ha => (of_eq_some (anySpecT h) as ha).2

theorem anyJsonE : ∀ {kt vt : Ty} {es : Entries}, HasTyE kt vt es → ∀ as, ofValE kt vt es = some as →
    toJsonE as = serE .json kt vt es :=
  fun h as ha => (of_eq_some (anySpecE h) as ha).2

theorem anyJsonF : ∀ {fs : Fields} {vs : FVals}, HasTyF fs vs → ∀ as, ofValF fs vs = some as →
    toJsonE as = serF .json fs vs :=
  fun h as ha => (of_eq_some (anySpecF h) as ha).1

def membersHaveText (k : List Nat) : Members → Bool
  | .nil => false
  | .cons (.text k') _ ms => k' == k || membersHaveText k ms
  | .cons _ _ ms => membersHaveText k ms

mutual
  /-- no object of the document has two members of the same text name -/
  def DistinctKeys : Doc → Prop
    | .arr xs => DistinctKeysL xs
    | .obj ms => DistinctKeysM ms
    | _ => True
  def DistinctKeysL : Docs → Prop
    | .nil => True
    | .cons x xs => DistinctKeys x ∧ DistinctKeysL xs
  def DistinctKeysM : Members → Prop
    | .nil => True
    | .cons (.text k) v ms => membersHaveText k ms = false ∧ DistinctKeys v ∧ DistinctKeysM ms
    | .cons _ v ms => DistinctKeys v ∧ DistinctKeysM ms
end

theorem ofJsonM_text {k : List Nat} {v : Doc} {ms : Members} {as : AnyEntries}
    (h : ofJsonM (.cons (.text k) v ms) = some as) :
    ∃ a as', ofJson v = some a ∧ ofJsonM ms = some as' ∧
      as = if entriesHaveStr k as' then as' else .cons (.str k) a as' := by
  rw [ofJsonM] at h
  split at h
  · next hv hms => exact ⟨_, _, hv, hms, (Option.some.inj h).symm⟩
  · cases h

theorem entriesHaveStr_ofJsonM (k : List Nat) (ms : Members) (as : AnyEntries) (h : ofJsonM ms = some as) :
    entriesHaveStr k as = membersHaveText k ms := by
  fun_induction membersHaveText k ms generalizing as with
  | case1 => cases h; rfl
  | case2 k' v ms ih =>
    obtain ⟨a, as', -, e2, rfl⟩ := ofJsonM_text h
    rw [← ih as' e2]
    split
    · next hh =>
      -- the member is dropped: the entries already hold `k'`, so nothing changes for `k = k'` either
      cases hk : k' == k
      · rfl
      · rw [← eq_of_beq hk, hh]; rfl
    · rfl
  | case3 key v ms hk ih =>
    -- a key that is not text (`hk`): `ofJsonM` rejects the object
    cases key with
    | text k' => exact (hk k' rfl).elim
    | flt => cases h

mutual
  /-- **JSON in, JSON out**: a JSON document (no object naming a member twice) parsed into the dynamic value
  re-serializes to itself -/
  theorem jsonAnyJson : ∀ (d : Doc), JsonClean d → DistinctKeys d → ∀ a, ofJson d = some a → toJson a = some d :=
    fun d hc hd a h => by
      cases d with
      | null | bool | int | str => cases h; rfl
      | bin => exact hc.elim
      | dbl x =>
        cases x with
        | fin => cases h; rfl
        | _ => exact hc.elim
      | arr xs =>
        obtain ⟨as, h1, rfl⟩ := Option.map_eq_some_iff.mp h
        simp only [toJson, jsonAnyJsonL xs hc hd as h1, Option.map_some]
      | obj ms =>
        obtain ⟨as, h1, rfl⟩ := Option.map_eq_some_iff.mp h
        simp only [toJson, jsonAnyJsonM ms hc hd as h1, Option.map_some]
  theorem jsonAnyJsonL : ∀ (xs : Docs), JsonCleanL xs → DistinctKeysL xs → ∀ as, ofJsonL xs = some as → toJsonL as = some xs :=
    fun xs hc hd as h => by
      cases xs with
      | nil => cases h; rfl
      | cons x xs =>
        rw [ofJsonL] at h
        split at h
        · next hx hxs => cases h; simp only [toJsonL, jsonAnyJson x hc.1 hd.1 _ hx, jsonAnyJsonL xs hc.2 hd.2 _ hxs]
        · cases h
  theorem jsonAnyJsonM : ∀ (ms : Members), JsonCleanM ms → DistinctKeysM ms → ∀ as, ofJsonM ms = some as → toJsonE as = some ms :=
    fun ms hc hd as h => by
      cases ms with
      | nil => cases h; rfl
      | cons key v ms =>
        cases key with
        | flt => cases h
        | text k =>
          obtain ⟨a, as', e1, e2, rfl⟩ := ofJsonM_text h
          -- no later member is named `k` (`hd.1`), so the visitor keeps this one
          rw [entriesHaveStr_ofJsonM k ms as' e2, hd.1]
          simp only [Bool.false_eq_true, if_false, toJsonE, anyKey, jsonAnyJson v hc.1 hd.2.1 a e1,
            jsonAnyJsonM ms hc.2 hd.2.2 as' e2]
end

end ConjureVerif.AnyM

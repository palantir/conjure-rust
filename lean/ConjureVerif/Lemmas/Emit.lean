import ConjureVerif.Model.Emit
import ConjureVerif.Model.Uri
/-
The generator's `dealiased_type` and its five type predicates (`is_optional`, `is_list`, `is_set`, `is_iterable`,
`is_binary`) are six separately written recursions over aliases and imported types; here each predicate
is shown to be a view of one function, `dealiased`, so that they can never disagree about a type.  Then the emitted
calls: client and server classify a return type alike (`returnType_cases`), and the calls of a client method that write
a header are its `headerCalls` and no other (`clientCalls_writesHeader`).
-/
namespace ConjureVerif.Emit

def optView : ITy → Option ITy
  | .optional t => some t
  | _ => none
def listView : ITy → Bool
  | .list _ => true
  | _ => false
def setView : ITy → Bool
  | .set _ => true
  | _ => false
def mapView : ITy → Bool
  | .map _ _ => true
  | _ => false
def iterView : ITy → Bool
  | .optional _ | .list _ | .set _ | .map _ _ => true
  | _ => false
def binView : ITy → Bool
  | .prim b => b
  | _ => false

/-! ### cardinalities: how many values a client call sends, how many a server decoder takes -/
inductive Card | one | opt | seq deriving DecidableEq, Repr

def QPush.card : QPush → Card
  | .one => .one
  | .optional => .opt
  | .list | .set => .seq

def Dec.card : Dec → Card
  | .one => .one
  | .opt _ => .opt
  | .seq => .seq

/-- the bytes a path-building call appends to the URI (`push_literal` appends its argument; `push_path_parameter`
a `/` and the percent-encoded PLAIN text of its argument) -/
def callBuf (tbl : List Nat) (txt : Option String → Bytes) : Call → Bytes
  | .lit s => s
  | .pathParam i => 47 :: Uri.encode tbl (txt i)
  | _ => []

def segBuf (tbl : List Nat) (txtOf : Bytes → Bytes) : Seg → Bytes
  | .lit l => 47 :: l
  | .param n => 47 :: Uri.encode tbl (txtOf n)

variable (defs : Defs) (f : Nat) (kw : List String) (args : List Arg)

/-- each predicate, with one unit of fuel more than `dealiased` gets, is its view of the dealiased type: all six
functions take the same steps -/
theorem predicates_view (t : ITy) : isOptional defs (f + 1) t = optView (dealiased defs f t) ∧
    isList defs (f + 1) t = listView (dealiased defs f t) ∧ isSet defs (f + 1) t = setView (dealiased defs f t) ∧
    isIterable defs (f + 1) t = iterView (dealiased defs f t) ∧ isBinary defs (f + 1) t = binView (dealiased defs f t) := by
  induction f generalizing t with
  | zero =>
    -- `dealiased` is out of fuel and leaves `t`; the predicates have one step left, and at a reference or an imported
    -- type that step ends in "no" whatever it finds, which is also what the views say of `t`
    cases t with
    | ref n =>
      simp only [isOptional, isList, isSet, isIterable, isBinary, dealiased]
      rcases defs[n]? with _ | ⟨t | _⟩ <;> exact ⟨rfl, rfl, rfl, rfl, rfl⟩
    | _ => exact ⟨rfl, rfl, rfl, rfl, rfl⟩
  | succ f ih =>
    -- all take the same step: through an alias or an imported type to its type, else stop at `t`
    cases t with
    | ref n =>
      simp only [isOptional, isList, isSet, isIterable, isBinary, dealiased]
      rcases defs[n]? with _ | ⟨t | _⟩
      · exact ⟨rfl, rfl, rfl, rfl, rfl⟩
      · exact ih t
      · exact ⟨rfl, rfl, rfl, rfl, rfl⟩
    | ext fb => exact ih fb
    | _ => exact ⟨rfl, rfl, rfl, rfl, rfl⟩

theorem queryPush_card (t : ITy) (hm : mapView (dealiased defs f t) = false) :
    (queryPush defs (f + 1) t).card =
      if (isOptional defs (f + 1) t).isSome then .opt else if isIterable defs (f + 1) t then .seq else .one := by
  obtain ⟨ho, hl, hs, hi, -⟩ := predicates_view defs f t
  rw [queryPush, ho, hl, hs, hi]
  -- both sides look at the constructor of the dealiased type, which is no map
  revert hm
  cases dealiased defs f t with
  | map k v => exact nofun
  | _ => exact fun _ => rfl

/-- `return_type` (clients.rs) and `produces` (servers.rs) sort a return type alike: an optional binary, a binary, or
serializable, where `produces` goes on to ask `is_iterable` -/
theorem returnType_cases (t : ITy) :
    returnType defs f (some t) = .optionalBinary ∧ produces defs f t = .optionalBinary ∨
    returnType defs f (some t) = .binary ∧ produces defs f t = .binary ∨
    returnType defs f (some t) = .json t ∧ produces defs f t = if isIterable defs f t then .collection else .std := by
  simp only [returnType, produces]
  cases isOptional defs f t with
  | none => cases isBinary defs f t <;> simp
  | some inner =>
    dsimp only
    cases isBinary defs f inner <;> cases isBinary defs f t <;> simp

/-- with or without `log_as`, the generated attribute reports the argument under its declared name -/
theorem logAs_getD (a : Arg) : (logAs kw a).getD (strBytes (ident kw a)) = a.name := by
  unfold logAs
  split <;> simp [*]

theorem pathCalls_buf (tbl : List Nat) (txt : Option String → Bytes) (segs : List Seg) (cur : Bytes) :
    (pathCalls kw args segs cur).flatMap (callBuf tbl txt) =
      cur ++ segs.flatMap (segBuf tbl (fun n => txt ((args.find? (fun a => a.kind == .path && a.name == n)).map (ident kw)))) := by
  induction segs generalizing cur with
  | nil => cases cur <;> rfl
  | cons sg r ih =>
    cases sg with
    | lit l =>
      rw [pathCalls, ih]
      exact List.append_assoc ..
    | param n =>
      rw [pathCalls, List.flatMap_append, ih]
      cases cur <;> simp [callBuf, segBuf]

/-- `encode_header_auth`, `encode_cookie_auth`, `encode_header` / `encode_optional_header` -/
def Call.writesHeader : Call → Bool
  | .headerAuth | .cookieAuth _ | .header .. => true
  | _ => false

theorem setupRequest_req : ∃ r i, setupRequest defs f kw args = .req r i := by
  unfold setupRequest
  split
  · split <;> exact ⟨_, _, rfl⟩
  · exact ⟨_, _, rfl⟩

theorem pathCalls_mem (segs : List Seg) (cur : Bytes) (c : Call) (h : c ∈ pathCalls kw args segs cur) :
    (∃ s, c = .lit s) ∨ (∃ i, c = .pathParam i) := by
  induction segs generalizing cur with
  | nil =>
    cases cur <;> simp [pathCalls] at h
    exact .inl ⟨_, h⟩
  | cons sg r ih =>
    cases sg with
    | lit l => exact ih _ h
    | param n =>
      rw [pathCalls, List.mem_append] at h
      rcases h with h | h
      · cases cur <;> simp at h
        · exact .inr ⟨_, h⟩
        · exact h.imp (fun h => ⟨_, h⟩) (fun h => ⟨_, h⟩)
      · exact ih _ h

theorem queryCalls_mem (c : Call) (h : c ∈ queryCalls defs f kw args) : ∃ h k i, c = .query h k i := by
  obtain ⟨a, -, ha⟩ := List.mem_filterMap.mp h
  cases hk : a.kind <;> simp [hk] at ha
  exact ⟨_, _, _, ha.symm⟩

theorem headerCalls_mem (c : Call) (h : c ∈ headerCalls defs f kw .none args) : ∃ o n i, c = .header o n i := by
  obtain ⟨a, -, ha⟩ := List.mem_filterMap.mp h
  cases hk : a.kind <;> simp [hk] at ha
  exact ⟨_, _, _, ha.symm⟩

theorem headerCalls_append (auth : Auth) :
    headerCalls defs f kw auth args = (match auth with
      | .cookie n => [.cookieAuth (n ++ [61])]
      | .header => [.headerAuth]
      | .none => []) ++ headerCalls defs f kw .none args := by
  cases auth <;> rfl

theorem prefix_no_header (e : Endpoint) :
    ([setupRequest defs f kw e.args] ++ pathCalls kw e.args (parsePath e.path) [] ++ queryCalls defs f kw e.args).filter
      (·.writesHeader) = [] := by
  refine List.filter_eq_nil_iff.mpr fun c hc => ?_
  simp only [List.mem_append, List.mem_singleton] at hc
  rcases hc with (rfl | hc) | hc
  · obtain ⟨r, i, h⟩ := setupRequest_req defs f kw e.args; rw [h]; exact Bool.false_ne_true
  · rcases pathCalls_mem kw e.args _ _ c hc with ⟨s, rfl⟩ | ⟨i, rfl⟩ <;> exact Bool.false_ne_true
  · obtain ⟨h, k, i, rfl⟩ := queryCalls_mem defs f kw e.args c hc; exact Bool.false_ne_true

theorem headerCalls_writes (auth : Auth) : (headerCalls defs f kw auth args).all (·.writesHeader) = true := by
  rw [headerCalls_append, List.all_append, Bool.and_eq_true]
  refine ⟨by cases auth <;> rfl, List.all_eq_true.mpr fun c hc => ?_⟩
  obtain ⟨o, n, i, rfl⟩ := headerCalls_mem defs f kw args c hc
  rfl

theorem clientCalls_writesHeader (e : Endpoint) :
    (clientCalls defs f kw e).filter (·.writesHeader) = headerCalls defs f kw e.auth e.args := by
  rw [clientCalls, List.filter_append, List.filter_append, prefix_no_header,
    List.filter_eq_self.mpr (List.all_eq_true.mp (headerCalls_writes defs f kw e.args e.auth))]
  exact List.append_nil _

end ConjureVerif.Emit

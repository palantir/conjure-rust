import ConjureVerif.Model.Base64
/-
Base64 regroups three bytes as four sextets: `a = w * 4 + x / 16`, `b = x % 16 * 16 + y / 4`, `c = y % 4 * 64 + z`.
All the arithmetic below is one fact used in both directions: for `r < m`, the digits of `q * m + r` in radix `m`
are `q` and `r` (`mul_add_div_of_lt`, core's `Nat.mul_add_mod_of_lt`), and `n / m * m + n % m = n`.
-/
namespace ConjureVerif.Base64

theorem mul_add_div_of_lt {a b c : Nat} (h : c < b) : (a * b + c) / b = a := by
  rw [Nat.add_comm, Nat.add_mul_div_right _ _ (Nat.zero_lt_of_lt h), Nat.div_eq_of_lt h, Nat.zero_add]

theorem mul_add_lt {q k r m : Nat} (hq : q < k) (hr : r < m) : q * m + r < k * m :=
  calc q * m + r < (q + 1) * m := by rw [Nat.succ_mul]; exact Nat.add_lt_add_left hr _
    _ ≤ k * m := Nat.mul_le_mul_right m hq

theorem val_ch : ∀ n < 64, val (ch n) = some n := by decide +kernel

theorem ch_ne_pad {n : Nat} (h : n < 64) : ch n ≠ 61 := fun e =>
  nomatch (e ▸ val_ch n h : val 61 = some n)

theorem decode_group {a b c : Nat} (ha : a < 256) (hb : b < 256) (hc : c < 256) (s : List Nat) :
    decode (ch (a / 4) :: ch (a % 4 * 16 + b / 16) :: ch (b % 16 * 4 + c / 64) :: ch (c % 64) :: s) =
      (decode s).map (a :: b :: c :: ·) := by
  have hb' : b / 16 < 16 := Nat.div_lt_of_lt_mul hb
  have hc' : c / 64 < 4 := Nat.div_lt_of_lt_mul hc
  have hz : c % 64 < 64 := Nat.mod_lt _ (by decide)
  rw [decode, val_ch _ (Nat.div_lt_of_lt_mul ha), val_ch _ (mul_add_lt (Nat.mod_lt _ (by decide)) hb'),
    val_ch _ (mul_add_lt (Nat.mod_lt _ (by decide)) hc'), val_ch _ hz]
  · cases decode s
    · rfl
    · simp only [Option.map, mul_add_div_of_lt hb', Nat.mul_add_mod_of_lt hb', mul_add_div_of_lt hc',
        Nat.mul_add_mod_of_lt hc', Nat.div_add_mod']
  -- `decode`'s equation for a full group holds when the two padded shapes `[_, _, 61, 61]` and `[_, _, _, 61]` before
  -- it do not match, which `rw` leaves to show: the fourth character is no `=`
  · intro _ h; exact absurd h (ch_ne_pad hz)
  · intro h; exact absurd h (ch_ne_pad hz)

theorem decode_encode : ∀ (bs : List Nat), (∀ b ∈ bs, b < 256) → decode (encode bs) = some bs := by
  intro bs h
  fun_induction encode bs with
  | case1 => rfl
  | case2 a =>
    have ha : a < 256 := h a List.mem_cons_self
    rw [decode, val_ch _ (Nat.div_lt_of_lt_mul ha), val_ch (a % 4 * 16) (by omega)]
    simp only [Nat.mul_mod_left, if_true, Nat.mul_div_cancel _ (by decide : 0 < 16), Nat.div_add_mod']
  | case3 a b =>
    simp only [List.forall_mem_cons] at h
    have hb' : b / 16 < 16 := Nat.div_lt_of_lt_mul h.2.1
    have hy : b % 16 * 4 < 64 := by omega
    rw [decode, val_ch _ (Nat.div_lt_of_lt_mul h.1), val_ch _ (mul_add_lt (Nat.mod_lt _ (by decide)) hb'),
      val_ch _ hy]
    · simp only [Nat.mul_mod_left, if_true, mul_add_div_of_lt hb', Nat.mul_add_mod_of_lt hb',
        Nat.mul_div_cancel _ (by decide : 0 < 4), Nat.div_add_mod']
    · -- likewise: the equation for `[_, _, _, 61]` holds when `[_, _, 61, 61]` does not match
      exact ch_ne_pad hy
  | case4 a b c rest ih =>
    simp only [List.forall_mem_cons] at h
    rw [decode_group h.1 h.2.1 h.2.2.1, ih h.2.2.2]; rfl

end ConjureVerif.Base64

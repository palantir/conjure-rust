import ConjureVerif.Model.TypePath
/-
`resolve` undoes `typePath`: the `super`s climb from the referring module to the deepest module both paths share
(`shared_take`, `resolve_supers`), the names descend from there (`resolve_names`).
-/
namespace ConjureVerif.TypePath

theorem shared_take (a b : List String) : a.take (shared a b) = b.take (shared a b) := by
  fun_induction shared a b with
  | case1 as bs a ih => simp [ih]
  | case2 | case3 => simp

theorem resolve_names (cur ns : List String) (r : List PSeg) :
    resolve cur (ns.map .name ++ r) = resolve (cur ++ ns) r := by
  induction ns generalizing cur with
  | nil => simp
  | cons n ns ih =>
    simp only [List.map_cons, List.cons_append, resolve]
    rw [ih (cur ++ [n])]; simp

theorem resolve_supers (n : Nat) (base ups : List String) (r : List PSeg) (h : ups.length = n) :
    resolve (base ++ ups) (List.replicate n .super ++ r) = resolve base r := by
  induction n generalizing ups with
  | zero => simp [List.length_eq_zero_iff.mp h]
  | succ n ih =>
    have hne : ups ≠ [] := fun e => by simp [e] at h
    rw [List.replicate_succ, List.cons_append, resolve, if_neg (by simp [hne]), List.dropLast_append_of_ne_nil hne]
    exact ih ups.dropLast (by simp [h])

/-- **the path names the other type where its package re-exports it**: read from the referring type's own module
(`this ++ [m]`), it leads to the item `typeName` of the module `other` — for any two packages, any prefix
configuration, and whatever the modules are called -/
theorem typePath_resolves (this other : List String) (m typeName : String) :
    resolve (this ++ [m]) (typePath this other typeName) = some (other ++ [typeName]) := by
  -- the referring module lies below the part both paths share
  have hs : this ++ [m] = other.take (shared this other) ++ (this.drop (shared this other) ++ [m]) := by
    rw [← shared_take, ← List.append_assoc, List.take_append_drop]
  rw [hs, typePath, ← List.replicate_succ, List.append_assoc, resolve_supers _ _ _ _ (by simp), resolve_names]
  simp [resolve]

/-- it never climbs out of the generated tree: at most one `super` per module of the referring type's path, plus the
one out of its own module -/
theorem typePath_supers (this other : List String) (typeName : String) :
    ((typePath this other typeName).filter (· == .super)).length ≤ this.length + 1 := by
  have h (l : List String) : (l.map PSeg.name).filter (· == .super) = [] := List.filter_eq_nil_iff.mpr (by simp)
  simp only [typePath, List.cons_append, List.filter_append, h, List.filter_cons_of_pos, List.filter_replicate_of_pos,
    beq_self_eq_true]
  simp

end ConjureVerif.TypePath

import ConjureVerif.Model.Endpoint
/-
The handler decodes its arguments in declaration order and stops at the first that fails.  Two facts carry what
C09 and C19 say of it.  `decodeArg_err`: what an error can look like (code, reported name, whether its cause is
safe), read off the branches of each decoder.  `run_eq`: a run either decodes every argument or ends with the error of
the first that fails, and in both cases the log holds exactly the safe ones among the arguments decoded (`safeLog`).
-/
namespace ConjureVerif.Endpoint

section
variable {ext : Bytes → Bool} {r : Request} {i : Nat} {dec : Dec} {ty : PTy} {vals : List Bytes} {ct : CtClass}
  {pl : Payload} {e : Err}

theorem decodeParam_err : decodeParam ext i dec ty vals = .error e → e = valueErr i ∨ e = cardErr vals.length := by
  fun_cases decodeParam ext i dec ty vals <;> rintro ⟨⟩ <;> simp

theorem decodeHeader_err : decodeHeader ext i dec ty vals = .error e → e = valueErr i ∨ e = cardErr vals.length := by
  fun_cases decodeHeader ext i dec ty vals
  -- where the one value is checked, by a function local to the definition, its two tests are taken apart as well
  any_goals (dsimp +zetaDelta only; repeat' split)
  all_goals rintro ⟨⟩ <;> simp

theorem decodeStdBody_err : decodeStdBody i ct pl = .error e → e = valueErr i ∨ e = bodySafeErr := by
  fun_cases decodeStdBody i ct pl <;> rintro ⟨⟩ <;> simp

theorem decodeBody_err : decodeBody i dec ct pl = .error e → e = valueErr i ∨ e = bodySafeErr := by
  fun_cases decodeBody i dec ct pl
  any_goals exact decodeStdBody_err      -- the optional and the default deserializer defer to the standard one
  all_goals rintro ⟨⟩ <;> simp

theorem decodeAuth_err {pfx : Bytes} : ∀ {e : Err}, decodeAuth pfx vals = .error e →
    e = { code := .permissionDenied, causeSafe := true, cause := .const } := by
  -- `e` is bound after the cases: they name the one error by a local definition, which `e` can then be replaced by
  fun_cases decodeAuth pfx vals <;> rintro _ ⟨⟩ <;> rfl

/-- the `match` in `h` is `decodeArg`'s local `named` applied to `d`: its error is one of `d`'s with `p` put in -/
theorem named_err {p : Option Bytes} {d : Except Err Unit} {P : Err → Prop}
    (h : (match d with | .ok u => .ok u | .error x => .error { x with param := p } : Except Err Unit) = .error e)
    (hd : ∀ {e0}, d = .error e0 → P e0) : ∃ e0, P e0 ∧ e = { e0 with param := p } := by
  cases d <;> cases h
  exact ⟨_, hd rfl, rfl⟩

theorem decodeArg_err {a : ArgSpec} : decodeArg r i a = .error e →
    (e.code = if a.kind = .auth ∨ a.kind = .cookie then .permissionDenied else .invalidArgument) ∧
    (e.param = if a.kind = .auth ∨ a.kind = .cookie then none else reportedName a) ∧
    (e.causeSafe = true → e.cause = .const) := by
  fun_cases decodeArg r i a <;> intro h
  · obtain ⟨_, rfl | rfl, rfl⟩ := named_err h decodeParam_err <;> simp [*, valueErr, cardErr]     -- path
  · obtain ⟨_, rfl | rfl, rfl⟩ := named_err h decodeParam_err <;> simp [*, valueErr, cardErr]     -- query
  · obtain ⟨_, rfl | rfl, rfl⟩ := named_err h decodeHeader_err <;> simp [*, valueErr, cardErr]    -- header
  · cases decodeAuth_err h; simp [*]                                                              -- auth
  · cases decodeAuth_err h; simp [*]                                                              -- cookie
  · obtain ⟨_, rfl | rfl, rfl⟩ := named_err h decodeBody_err <;> simp [*, valueErr, bodySafeErr]  -- body
  · cases h                                                                                       -- context: never fails

end

/-- every argument of `as` decodes, `as` being the arguments from the `i`-th on -/
def Decodes (r : Request) (i : Nat) (as : List ArgSpec) : Prop :=
  ∀ aj ∈ as.zipIdx i, decodeArg r aj.2 aj.1 = .ok ()

theorem decodes_nil {r : Request} {i : Nat} : Decodes r i [] := by
  simp [Decodes]

theorem decodes_cons {r : Request} {i : Nat} {a : ArgSpec} {as : List ArgSpec} :
    Decodes r i (a :: as) ↔ decodeArg r i a = .ok () ∧ Decodes r (i + 1) as := by
  simp only [Decodes, List.zipIdx_cons, List.forall_mem_cons]

theorem decodes_zero {r : Request} {as : List ArgSpec} :
    Decodes r 0 as ↔ ∀ k a, as[k]? = some a → decodeArg r k a = .ok () := by
  simp only [Decodes, List.mem_zipIdx_iff_getElem?, Prod.forall]
  exact ⟨fun h k a => h a k, fun h a k => h k a⟩

/-- the `SafeParams` entries that decoding `as` leaves (`i` as in `Decodes`) -/
def safeLog (i : Nat) (as : List ArgSpec) : List (Bytes × Nat) :=
  ((as.zipIdx i).filter (·.1.safe)).map fun aj => (safeKey aj.1, aj.2)

theorem safeLog_append (i : Nat) (as bs : List ArgSpec) :
    safeLog i (as ++ bs) = safeLog i as ++ safeLog (i + as.length) bs := by
  simp [safeLog, List.zipIdx_append]

theorem mem_safeLog {k : Bytes} {j : Nat} {as : List ArgSpec} :
    (k, j) ∈ safeLog 0 as ↔ ∃ a, as[j]? = some a ∧ a.safe = true ∧ safeKey a = k := by
  simp only [safeLog, List.mem_map, List.mem_filter, List.mem_zipIdx_iff_getElem?, Prod.exists, Prod.mk.injEq]
  constructor
  · rintro ⟨a, _, ⟨h, hs⟩, hk, rfl⟩; exact ⟨a, h, hs, hk⟩
  · rintro ⟨a, h, hs, hk⟩; exact ⟨a, j, ⟨h, hs⟩, hk, rfl⟩

theorem run_append (r : Request) (pre : List ArgSpec) (i : Nat) (rest : List ArgSpec) (logged : List (Bytes × Nat))
    (h : Decodes r i pre) : run r i (pre ++ rest) logged = run r (i + pre.length) rest (logged ++ safeLog i pre) := by
  induction pre generalizing i logged with
  | nil => simp [safeLog]
  | cons a pre ih =>
    rw [decodes_cons] at h
    simp only [List.cons_append, run, h.1]
    rw [ih (i + 1) _ h.2, List.length_cons, Nat.add_right_comm, Nat.add_assoc]
    congr 1
    -- the entry the step made for `a`, if any, is the head of `safeLog i (a :: pre)`
    cases hs : a.safe <;> simp [safeLog, List.zipIdx_cons, hs]

theorem run_decodes {r : Request} {i : Nat} {args : List ArgSpec} (logged : List (Bytes × Nat)) (h : Decodes r i args) :
    run r i args logged = ⟨none, logged ++ safeLog i args⟩ := by
  simpa [run] using run_append r args i [] logged h

theorem first_failure (r : Request) (args : List ArgSpec) (i : Nat) : Decodes r i args ∨
    ∃ pre a post e, args = pre ++ a :: post ∧ Decodes r i pre ∧ decodeArg r (i + pre.length) a = .error e := by
  induction args generalizing i with
  | nil => exact .inl decodes_nil
  | cons a rest ih =>
    cases h : decodeArg r i a with
    | error e => exact .inr ⟨[], a, rest, e, rfl, decodes_nil, h⟩
    | ok =>
      rcases ih (i + 1) with h' | ⟨pre, b, post, e, rfl, h', hb⟩
      · exact .inl (decodes_cons.mpr ⟨h, h'⟩)
      · refine .inr ⟨a :: pre, b, post, e, rfl, decodes_cons.mpr ⟨h, h'⟩, ?_⟩
        rwa [List.length_cons, ← Nat.add_assoc, Nat.add_right_comm]

theorem run_eq (r : Request) (logged : List (Bytes × Nat)) (args : List ArgSpec) (i : Nat) :
    (Decodes r i args ∧ run r i args logged = ⟨none, logged ++ safeLog i args⟩) ∨
    ∃ pre a post e, args = pre ++ a :: post ∧ Decodes r i pre ∧ decodeArg r (i + pre.length) a = .error e ∧
      run r i args logged = ⟨some e, logged ++ safeLog i pre⟩ := by
  rcases first_failure r args i with h | ⟨pre, a, post, e, rfl, h, ha⟩
  · exact .inl ⟨h, run_decodes logged h⟩
  · exact .inr ⟨pre, a, post, e, rfl, h, ha, by rw [run_append r pre i _ logged h, run, ha]⟩

theorem run_keeps (r : Request) (i : Nat) (args : List ArgSpec) (logged : List (Bytes × Nat)) (x : Bytes × Nat)
    (h : x ∈ logged) : x ∈ (run r i args logged).logged := by
  rcases run_eq r logged args i with ⟨-, ho⟩ | ⟨_, _, _, _, -, -, -, ho⟩ <;> simp [ho, h]

end ConjureVerif.Endpoint

import ConjureVerif.Lemmas.WrapTyping
namespace ConjureVerif.Wrap
open ConjureVerif.Data

/-! ### the readers in sequencing form

`de` and its companions are written with explicit matches; for most proofs only the shape "read this, then go on
with the rest, an error ends the reading" matters, and that is `Except.bind`. -/

theorem de_option {fmt : Fmt} {side : Side} {t : Ty} {d : Doc} (h : d ≠ .null) :
    de fmt side (.option t) d = (de fmt side t d).map Val.some := by
  rw [de]; exact h      -- the side goal: the clause for `.null` above this one does not apply

theorem de_struct (fmt : Fmt) (side : Side) (fs : Fields) (ms : Members) :
    de fmt side (.struct fs) (.obj ms) =
      (deM fmt side (side == .server) fs ms []).bind fun found => (assemble fs 0 found).map Val.struct := by
  rw [de]; cases deM fmt side (side == .server) fs ms [] <;> rfl

theorem de_structVariant (fmt : Fmt) (side : Side) {vs : Variants} {s : List Nat} {i : Nat} {fs : Fields}
    (hf : vs.find? s 0 = some (i, .struct, .struct fs)) (ms : Members) :
    de fmt side (.enum vs) (.obj (.cons (.text s) (.obj ms) .nil)) =
      (deM fmt side false fs ms []).bind fun found => (assemble fs 0 found).map fun f => Val.variant i (.struct f) := by
  rw [de]; simp only [hf]; cases deM fmt side false fs ms [] <;> rfl

theorem deL_cons (fmt : Fmt) (side : Side) (t : Ty) (x : Doc) (xs : Docs) :
    deL fmt side t (.cons x xs) = (de fmt side t x).bind fun v => (deL fmt side t xs).map (Vals.cons v) := by
  rw [deL]; cases de fmt side t x <;> rfl

theorem deT_cons (fmt : Fmt) (side : Side) (t : Ty) (ts : Tys) (x : Doc) (xs : Docs) :
    deT fmt side (.cons t ts) (.cons x xs) = (de fmt side t x).bind fun v => (deT fmt side ts xs).map (Vals.cons v) := by
  rw [deT]; cases de fmt side t x <;> rfl

theorem deE_cons (fmt : Fmt) (side : Side) (kt vt : Ty) (key : Key) (x : Doc) (ms : Members) :
    deE fmt side kt vt (.cons key x ms) =
      (deKey kt key).bind fun kv => (de fmt side vt x).bind fun v => (deE fmt side kt vt ms).map (Entries.cons kv v) := by
  rw [deE]; cases deKey kt key
  · rfl
  · cases de fmt side vt x <;> rfl

theorem deM_text (fmt : Fmt) (side : Side) (strict : Bool) (fs : Fields) (name : List Nat) (x : Doc) (ms : Members)
    (acc : List (Nat × Val)) :
    deM fmt side strict fs (.cons (.text name) x ms) acc =
      match fieldIndex fs name 0 with
      | some (i, t) =>
        if (acc.lookup i).isSome then .error .other
        else (de fmt side t x).bind fun v => deM fmt side strict fs ms (acc ++ [(i, v)])
      | none => if strict then .error (.unknownField name) else deM fmt side strict fs ms acc := by
  rw [deM]; rcases fieldIndex fs name 0 with _ | ⟨i, t⟩
  · rfl
  · exact congrArg (ite _ _) (by cases de fmt side t x <;> rfl)      -- the same `if`; the `else` branches agree

theorem deDbl_serDbl (fmt : Fmt) (d : Dbl) : deDbl fmt (serDbl fmt d) = .ok d := by
  cases fmt <;> cases d <;> rfl

theorem deBytes_serBytes (fmt : Fmt) (bs : List Nat) (h : Bytes bs) : deBytes fmt (serBytes fmt bs) = .ok bs := by
  cases fmt
  · rw [serBytes, deBytes, if_pos rfl, Base64.decode_encode bs h]
  · rfl

mutual
  theorem rt (fmt : Fmt) (side : Side) : ∀ {t : Ty} {v : Val}, HasTy t v →
      ∃ d, ser fmt t v = some d ∧ de fmt side t d = .ok v :=
    fun h => by
      cases h with
      | bool _ | str _ | unit | none _ | unitStruct => exact ⟨_, rfl, by simp only [de]⟩
      | int w n hw => exact ⟨_, rfl, by simp only [de, hw, ↓reduceIte]⟩
      | f64 d | f32 d => exact ⟨_, rfl, by simp only [de, deDbl_serDbl, map_ok]⟩
      | bytes bs hb => exact ⟨_, rfl, by simp only [de, deBytes_serBytes fmt bs hb, map_ok]⟩
      | uuid bs hl hb =>
        cases fmt
        · exact ⟨_, rfl, by rw [de, if_pos rfl, Plain.uuidParse_uuidText bs hl hb]⟩
        · exact ⟨_, rfl, by rw [de, if_pos ⟨rfl, hl⟩]⟩
      | some t v hv hn =>
        obtain ⟨d, h1, h2⟩ := rt fmt side hv
        exact ⟨d, h1, by rw [de_option fun e => hn fmt (e ▸ h1), h2]; rfl⟩
      | newtype t v hv =>
        obtain ⟨d, h1, h2⟩ := rt fmt side hv
        exact ⟨d, h1, by simp only [de, h2, map_ok]⟩
      | seq t vs hl =>
        obtain ⟨ds, h1, h2⟩ := rtL fmt side hl
        exact ⟨.arr ds, congrArg (Option.map Doc.arr) h1, by simp only [de, h2, map_ok]⟩
      | tuple ts vs ht | tupleStruct ts vs ht =>
        obtain ⟨ds, h1, h2⟩ := rtT fmt side ht
        exact ⟨.arr ds, congrArg (Option.map Doc.arr) h1, by simp only [de, h2, map_ok]⟩
      | map kt vt es he =>
        obtain ⟨ms, h1, h2⟩ := rtE fmt side he
        exact ⟨.obj ms, congrArg (Option.map Doc.obj) h1, by simp only [de, h2, map_ok]⟩
      | struct fs vs hnd hf =>
        obtain ⟨ms, h1, h2⟩ := rtF fmt side (side == .server) fs hf 0 (fieldsAt hnd) [] (List.forall_mem_nil _)
        exact ⟨.obj ms, congrArg (Option.map Doc.obj) h1, by
          rw [de_struct, h2]; exact congrArg (Except.map Val.struct) (assemble_enum hf)⟩
      | unitVariant vs i name pty hg hd => exact ⟨_, ser_unitVariant hg, by simp only [de, hd i name .unit pty hg]⟩
      | newtypeVariant vs i name pty p hg hd hp =>
        obtain ⟨d, h1, h2⟩ := rt fmt side hp
        exact ⟨_, ser_variant hg h1, by simp only [de, hd i name .newtype pty hg, h2, map_ok]⟩
      | tupleVariant vs i name ts ps hg hd ht =>
        obtain ⟨ds, h1, h2⟩ := rtT fmt side ht
        exact ⟨_, ser_variant hg (congrArg (Option.map Doc.arr) h1), by
          simp only [de, hd i name .tuple (.tuple ts) hg, h2, map_ok]⟩
      | structVariant vs i name fs ps hg hd hnd hf =>
        obtain ⟨ms, h1, h2⟩ := rtF fmt side false fs hf 0 (fieldsAt hnd) [] (List.forall_mem_nil _)
        exact ⟨_, ser_variant hg (congrArg (Option.map Doc.obj) h1), by
          rw [de_structVariant fmt side (hd i name .struct (.struct fs) hg), h2]
          exact congrArg (Except.map _) (assemble_enum hf)⟩
  -- recursion on the value: over the derivation itself Lean builds `below`/`brecOn` for the five mutual
  -- predicates, which costs several times what the cases do.  For the same reason the derivation is taken by `fun`
  -- and split by `cases` throughout: a pattern match on it, even `| _, _, h =>`, is a matcher the recursion then
  -- has to be compiled through
  termination_by structural _ v => v
  theorem rtL (fmt : Fmt) (side : Side) : ∀ {t : Ty} {vs : Vals}, HasTyL t vs →
      ∃ ds, serL fmt t vs = some ds ∧ deL fmt side t ds = .ok vs :=
    fun h => by
      cases h with
      | nil => exact ⟨.nil, rfl, by rw [deL]⟩
      | cons _ _ _ hv hl =>
        obtain ⟨d, h1, h2⟩ := rt fmt side hv
        obtain ⟨ds, h3, h4⟩ := rtL fmt side hl
        exact ⟨.cons d ds, by rw [serL, h1, h3], by rw [deL_cons, h2, h4]; rfl⟩
  termination_by structural _ vs => vs
  theorem rtT (fmt : Fmt) (side : Side) : ∀ {ts : Tys} {vs : Vals}, HasTyT ts vs →
      ∃ ds, serT fmt ts vs = some ds ∧ deT fmt side ts ds = .ok vs :=
    fun h => by
      cases h with
      | nil => exact ⟨.nil, rfl, by rw [deT]⟩
      | cons _ _ _ _ hv ht =>
        obtain ⟨d, h1, h2⟩ := rt fmt side hv
        obtain ⟨ds, h3, h4⟩ := rtT fmt side ht
        exact ⟨.cons d ds, by rw [serT, h1, h3], by rw [deT_cons, h2, h4]; rfl⟩
  termination_by structural _ vs => vs
  theorem rtE (fmt : Fmt) (side : Side) : ∀ {kt vt : Ty} {es : Entries}, HasTyE kt vt es →
      ∃ ms, serE fmt kt vt es = some ms ∧ deE fmt side kt vt ms = .ok es :=
    fun h => by
      cases h with
      | nil => exact ⟨.nil, rfl, by rw [deE]⟩
      | cons _ _ _ _ _ hk hv he =>
        obtain ⟨key, k1, k2⟩ := deKey_serKey hk
        obtain ⟨d, h1, h2⟩ := rt fmt side hv
        obtain ⟨ms, h3, h4⟩ := rtE fmt side he
        exact ⟨.cons key d ms, by rw [serE, k1, h1, h3], by rw [deE_cons, k2, h2, h4]; rfl⟩
  termination_by structural _ _ es => es
  /-- the members written for the fields `fs`, which stand at `k, k+1, …` in the struct's field list `all`, are read
      back, in order, as those indices with the original values -/
  theorem rtF (fmt : Fmt) (side : Side) (strict : Bool) (all : Fields) : ∀ {fs : Fields} {vs : FVals}, HasTyF fs vs →
      ∀ k, FieldsAt all k fs → ∀ (acc : List (Nat × Val)), (∀ p ∈ acc, p.1 < k) →
      ∃ ms, serF fmt fs vs = some ms ∧ deM fmt side strict all ms acc = .ok (acc ++ enumFrom k vs) :=
    fun h k hat acc hacc => by
      cases h with
      | nil => exact ⟨.nil, rfl, by rw [deM, enumFrom, List.append_nil]⟩
      | cons n _ _ v _ hv hf =>
        obtain ⟨d, h1, h2⟩ := rt fmt side hv
        obtain ⟨ms, h3, h4⟩ := rtF fmt side strict all hf (k + 1) hat.2 _ (lt_snoc hacc v)
        rw [List.append_assoc] at h4
        refine ⟨.cons (.text n) d ms, by rw [serF, h1, h3], ?_⟩
        rw [deM_text, hat.1]
        simp only [lookup_lt hacc, Option.isSome_none, Bool.false_eq_true, if_false, h2]
        exact h4
  termination_by structural _ vs => vs
end

/-- `rtF` for the fields behind a prefix `pre` of the struct's fields, all names distinct -/
theorem rtM (fmt : Fmt) (side : Side) (strict : Bool) : ∀ (pre : Fields) {fs : Fields} {vs : FVals},
      HasTyF fs vs → (pre.append fs).names.Nodup → ∀ (acc : List (Nat × Val)), (∀ p ∈ acc, p.1 < pre.length) →
      ∃ ms, serF fmt fs vs = some ms ∧
        deM fmt side strict (pre.append fs) ms acc = .ok (acc ++ enumFrom pre.length vs) :=
  fun pre _ _ hf hnd => rtF fmt side strict _ hf _ (fieldsAt_append pre hnd)

end ConjureVerif.Wrap

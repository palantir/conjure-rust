import ConjureVerif.Model.RustType
/-
Each theorem is one structural induction over the Conjure type.  Going down, the `key` flag only ever turns on (below a
set item or a map key), so sets and maps call the induction hypothesis at `key = true`, where everything has an order.
-/
namespace ConjureVerif.RustType

/-- **a type the generator writes has an order of its own exactly when it stands in a key position or `is_double`
says no, and the `DoubleOps` methods exactly otherwise**: `f64`, the one leaf without an order, is written for the
doubles `is_double` finds and nowhere else -/
theorem ordOk_doubleOpsOk_rustType (key : Bool) (t : CTy) :
    ordOk (rustType key t) = (key || !isDouble t) ∧ doubleOpsOk (rustType key t) = (!key && isDouble t) := by
  induction t generalizing key with
  | prim p =>
    by_cases h : p = .double
    · subst h; cases key <;> exact ⟨rfl, rfl⟩
    · simp [rustType, ordOk, doubleOpsOk, isDouble]      -- by `h`, a leaf with an order of its own
  | optional t ih => exact ih key
  | list t ih => exact ih key
  | set t ih => simp [rustType, ordOk, doubleOpsOk, isDouble, (ih true).1]
  | map k v ihk ihv => simp [rustType, ordOk, doubleOpsOk, isDouble, (ihk true).1, ihv key]
  | ref _ => simp [rustType, ordOk, doubleOpsOk, isDouble]
  | ext fb ih => exact ih key

/-- **every set item and map key is `Ord`, at any depth, in any position** -/
theorem usable_rustType (key : Bool) (t : CTy) : usable (rustType key t) = true := by
  induction t generalizing key with
  | prim p => cases p <;> cases key <;> rfl
  | optional t ih => exact ih key
  | list t ih => exact ih key
  | set t ih => simp [rustType, usable, ordOk_doubleOpsOk_rustType, ih true]
  | map k v ihk ihv => simp [rustType, usable, ordOk_doubleOpsOk_rustType, ihk true, ihv key]
  | ref _ => rfl
  | ext fb ih => exact ih key

/-- the item a setter stores is an element of the field, in a value position and in a key position alike -/
theorem builderItem_fits (key : Bool) (t : CTy) : fits (builderItem key t) (rustType key t) = true := by
  induction t with
  | prim p => cases p <;> exact beq_self_eq_true _
  | optional _ => exact beq_self_eq_true _
  | list _ => simp [builderItem, fits, rustType]
  | set _ => simp [builderItem, fits, rustType]
  | map _ _ => exact beq_self_eq_true _
  | ref _ => exact beq_self_eq_true _
  | ext fb ih => exact ih

def elems : RTy → List RTy
  | .vec t => [t]
  | .set t => [t]
  | .map k v => [k, v]
  | _ => []

def fieldFits : FieldCfg → RTy → Bool
  | .list i, .vec t => fits i t
  | .set i, .set t => fits i t
  | .map k v, .map a b => fits k a && fits v b
  | .other, _ => true
  | _, _ => false

theorem builderField_fits (t : CTy) : fieldFits (builderField t) (rustType false t) = true := by
  induction t with
  | prim p => cases p <;> rfl
  | optional _ => rfl
  | list t => exact builderItem_fits false t
  | set t => exact builderItem_fits true t
  | map k v => simp only [builderField, fieldFits, rustType, builderItem_fits, Bool.and_self]
  | ref _ => rfl
  | ext fb ih => exact ih

/-- the rule before the repair (map values always written as in a value position): a set of maps to doubles is a
set of something that has no order -/
def rustTypeOld (key : Bool) : CTy → RTy
  | .prim .double => if key then .doubleKey else .f64
  | .prim p => .leaf (primName p)
  | .optional t => .option (rustTypeOld key t)
  | .list t => .vec (rustTypeOld key t)
  | .set t => .set (rustTypeOld true t)
  | .map k v => .map (rustTypeOld true k) (rustTypeOld false v)
  | .ref n => .leaf n
  | .ext fb => rustTypeOld key fb

end ConjureVerif.RustType

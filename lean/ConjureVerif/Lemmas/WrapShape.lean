import ConjureVerif.Lemmas.WrapRoundTrip
/-
Two facts about the documents written for a well-typed value: the JSON one is plain JSON (`JsonClean`), and the Smile
one has the same member names (`keysOf`).  Both go by the same recursion over the value and have to carry along that the
serializers succeed, so `shape` proves them once, together, as `Agree`; `clean*` and `sameKeys*` are read off it.
-/
namespace ConjureVerif.Wrap
open ConjureVerif.Data

mutual
  /-- a document that plain JSON can carry: no native binary, no non-finite number -/
  def JsonClean : Doc → Prop
    | .bin _ => False
    | .dbl .nan => False
    | .dbl .posInf => False
    | .dbl .negInf => False
    | .arr xs => JsonCleanL xs
    | .obj ms => JsonCleanM ms
    | _ => True
  def JsonCleanL : Docs → Prop
    | .nil => True
    | .cons x xs => JsonClean x ∧ JsonCleanL xs
  def JsonCleanM : Members → Prop
    | .nil => True
    | .cons _ v ms => JsonClean v ∧ JsonCleanM ms
end

mutual
  /-- all member names of a document, in document order -/
  def keysOf : Doc → List Key
    | .arr xs => keysOfL xs
    | .obj ms => keysOfM ms
    | _ => []
  def keysOfL : Docs → List Key
    | .nil => []
    | .cons x xs => keysOf x ++ keysOfL xs
  def keysOfM : Members → List Key
    | .nil => []
    | .cons k v ms => k :: (keysOf v ++ keysOfM ms)
end

/-- the JSON and the Smile serialization `oj`, `os` of one value both succeed; the JSON result satisfies `C`
    (is clean) and `K` (the member names) is the same of both -/
abbrev Agree {α : Type} (C : α → Prop) (K : α → List Key) (oj os : Option α) : Prop :=
  ∃ a, oj = some a ∧ ∃ b, os = some b ∧ C a ∧ K a = K b

namespace Agree
variable {α : Type} {C : α → Prop} {K : α → List Key} {oj os : Option α}

theorem clean (h : Agree C K oj os) (d : α) (hd : oj = some d) : C d :=
  (of_eq_some h d hd).elim fun _ h => h.2.1

theorem sameKeys (h : Agree C K oj os) (a b : α) (ha : oj = some a) (hb : os = some b) : K a = K b :=
  (of_eq_some (of_eq_some h a ha) b hb).2

theorem arr {oj os : Option Docs} (h : Agree JsonCleanL keysOfL oj os) :
    Agree JsonClean keysOf (oj.map .arr) (os.map .arr) := by
  obtain ⟨a, rfl, b, rfl, hc, hk⟩ := h
  exact ⟨.arr a, rfl, .arr b, rfl, hc, hk⟩

theorem obj {oj os : Option Members} (h : Agree JsonCleanM keysOfM oj os) :
    Agree JsonClean keysOf (oj.map .obj) (os.map .obj) := by
  obtain ⟨a, rfl, b, rfl, hc, hk⟩ := h
  exact ⟨.obj a, rfl, .obj b, rfl, hc, hk⟩

theorem variant {vs : Variants} {i : Nat} {name : List Nat} {kind : VKind} {pty : Ty} {p : Val}
    (hg : vs.get? i = some (name, kind, pty)) (h : Agree JsonClean keysOf (ser .json pty p) (ser .smile pty p))
    (hkind : kind ≠ .unit := by decide) :
    Agree JsonClean keysOf (ser .json (.enum vs) (.variant i p)) (ser .smile (.enum vs) (.variant i p)) := by
  obtain ⟨_, h1, _, h2, hc, hk⟩ := h
  exact ⟨_, ser_variant hg h1 hkind, _, ser_variant hg h2 hkind, ⟨hc, trivial⟩, by simp only [keysOf, keysOfM, hk]⟩

end Agree

mutual
  theorem shape : ∀ {t : Ty} {v : Val}, HasTy t v → Agree JsonClean keysOf (ser .json t v) (ser .smile t v) :=
    fun h => by
      cases h with
      | bool _ | int _ _ _ | str _ | bytes _ _ | unit | uuid _ _ _ | none _ | unitStruct =>
        exact ⟨_, rfl, _, rfl, trivial, rfl⟩
      | f64 d | f32 d => exact ⟨_, rfl, _, rfl, by cases d <;> exact ⟨trivial, rfl⟩⟩
      | some _ _ hv _ | newtype _ _ hv => exact (shape hv :)      -- `ser` writes the payload itself
      | seq _ _ hl => exact (shapeL hl).arr
      | tuple _ _ ht | tupleStruct _ _ ht => exact (shapeT ht).arr
      | map _ _ _ he => exact (shapeE he).obj
      | struct _ _ _ hf => exact (shapeF hf).obj
      | unitVariant _ _ _ _ hg _ => exact ⟨_, ser_unitVariant hg, _, ser_unitVariant hg, trivial, rfl⟩
      | newtypeVariant _ _ _ _ _ hg _ hp => exact Agree.variant hg (shape hp)
      | tupleVariant _ _ _ _ _ hg _ ht => exact Agree.variant hg (shapeT ht).arr
      | structVariant _ _ _ _ _ hg _ _ hf => exact Agree.variant hg (shapeF hf).obj
  termination_by structural _ v => v
  theorem shapeL : ∀ {t : Ty} {vs : Vals}, HasTyL t vs → Agree JsonCleanL keysOfL (serL .json t vs) (serL .smile t vs) :=
    fun h => by
      cases h with
      | nil => exact ⟨_, rfl, _, rfl, trivial, rfl⟩
      | cons _ _ _ hv hl =>
        obtain ⟨dj, h1, ds, h2, hc, hk⟩ := shape hv
        obtain ⟨aj, h3, as, h4, hcs, hks⟩ := shapeL hl
        exact ⟨.cons dj aj, by rw [serL, h1, h3], .cons ds as, by rw [serL, h2, h4], ⟨hc, hcs⟩,
          by rw [keysOfL, keysOfL, hk, hks]⟩
  termination_by structural _ vs => vs
  theorem shapeT : ∀ {ts : Tys} {vs : Vals}, HasTyT ts vs → Agree JsonCleanL keysOfL (serT .json ts vs) (serT .smile ts vs) :=
    fun h => by
      cases h with
      | nil => exact ⟨_, rfl, _, rfl, trivial, rfl⟩
      | cons _ _ _ _ hv ht =>
        obtain ⟨dj, h1, ds, h2, hc, hk⟩ := shape hv
        obtain ⟨aj, h3, as, h4, hcs, hks⟩ := shapeT ht
        exact ⟨.cons dj aj, by rw [serT, h1, h3], .cons ds as, by rw [serT, h2, h4], ⟨hc, hcs⟩,
          by rw [keysOfL, keysOfL, hk, hks]⟩
  termination_by structural _ vs => vs
  theorem shapeE : ∀ {kt vt : Ty} {es : Entries}, HasTyE kt vt es →
      Agree JsonCleanM keysOfM (serE .json kt vt es) (serE .smile kt vt es) :=
    fun h => by
      cases h with
      | nil => exact ⟨_, rfl, _, rfl, trivial, rfl⟩
      | cons _ _ _ _ _ hkey hv he =>
        obtain ⟨key, k1, _⟩ := deKey_serKey hkey
        obtain ⟨dj, h1, ds, h2, hc, hk⟩ := shape hv
        obtain ⟨mj, h3, ms, h4, hcs, hks⟩ := shapeE he
        exact ⟨.cons key dj mj, by rw [serE, k1, h1, h3], .cons key ds ms, by rw [serE, k1, h2, h4], ⟨hc, hcs⟩,
          by rw [keysOfM, keysOfM, hk, hks]⟩
  termination_by structural _ _ es => es
  theorem shapeF : ∀ {fs : Fields} {vs : FVals}, HasTyF fs vs → Agree JsonCleanM keysOfM (serF .json fs vs) (serF .smile fs vs) :=
    fun h => by
      cases h with
      | nil => exact ⟨_, rfl, _, rfl, trivial, rfl⟩
      | cons n _ _ _ _ hv hf =>
        obtain ⟨dj, h1, ds, h2, hc, hk⟩ := shape hv
        obtain ⟨mj, h3, ms, h4, hcs, hks⟩ := shapeF hf
        exact ⟨.cons (.text n) dj mj, by rw [serF, h1, h3], .cons (.text n) ds ms, by rw [serF, h2, h4], ⟨hc, hcs⟩,
          by rw [keysOfM, keysOfM, hk, hks]⟩
  termination_by structural _ vs => vs
end

theorem clean (fmt : Fmt) (hf : fmt = .json) : ∀ {t : Ty} {v : Val}, HasTy t v → ∀ d, ser fmt t v = some d → JsonClean d :=
  hf ▸ fun h => (shape h).clean
theorem cleanL (fmt : Fmt) (hf : fmt = .json) : ∀ {t : Ty} {vs : Vals}, HasTyL t vs → ∀ ds, serL fmt t vs = some ds → JsonCleanL ds :=
  hf ▸ fun h => (shapeL h).clean
theorem cleanT (fmt : Fmt) (hf : fmt = .json) : ∀ {ts : Tys} {vs : Vals}, HasTyT ts vs → ∀ ds, serT fmt ts vs = some ds → JsonCleanL ds :=
  hf ▸ fun h => (shapeT h).clean
theorem cleanE (fmt : Fmt) (hf : fmt = .json) : ∀ {kt vt : Ty} {es : Entries}, HasTyE kt vt es → ∀ ms, serE fmt kt vt es = some ms → JsonCleanM ms :=
  hf ▸ fun h => (shapeE h).clean
theorem cleanF (fmt : Fmt) (hf : fmt = .json) : ∀ {fs : Fields} {vs : FVals}, HasTyF fs vs → ∀ ms, serF fmt fs vs = some ms → JsonCleanM ms :=
  hf ▸ fun h => (shapeF h).clean

theorem sameKeys : ∀ {t : Ty} {v : Val}, HasTy t v → ∀ dj ds, ser .json t v = some dj → ser .smile t v = some ds →
    keysOf dj = keysOf ds :=
  fun h => (shape h).sameKeys
theorem sameKeysL : ∀ {t : Ty} {vs : Vals}, HasTyL t vs → ∀ a b, serL .json t vs = some a → serL .smile t vs = some b →
    keysOfL a = keysOfL b :=
  fun h => (shapeL h).sameKeys
theorem sameKeysT : ∀ {ts : Tys} {vs : Vals}, HasTyT ts vs → ∀ a b, serT .json ts vs = some a → serT .smile ts vs = some b →
    keysOfL a = keysOfL b :=
  fun h => (shapeT h).sameKeys
theorem sameKeysE : ∀ {kt vt : Ty} {es : Entries}, HasTyE kt vt es → ∀ a b, serE .json kt vt es = some a → serE .smile kt vt es = some b →
    keysOfM a = keysOfM b :=
  fun h => (shapeE h).sameKeys
theorem sameKeysF : ∀ {fs : Fields} {vs : FVals}, HasTyF fs vs → ∀ a b, serF .json fs vs = some a → serF .smile fs vs = some b →
    keysOfM a = keysOfM b :=
  fun h => (shapeF h).sameKeys

end ConjureVerif.Wrap

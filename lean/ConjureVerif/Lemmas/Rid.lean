import ConjureVerif.Model.Rid
import ConjureVerif.Lemmas.Uri
/-
`parse` against `render`.  A rendering whose first three components hold no dot splits back into exactly its
components (`parse_render`); whatever `parse` accepts is such a rendering, because joining the pieces of a split gives
the text back (`joinDots_splitOn`, `parse_eq_some`); and valid components hold no dot, so the pre-check of
`from_components` refuses nothing that `parse` would take (`fromComponents_eq`).
-/
namespace ConjureVerif.Rid
open ConjureVerif.Uri

theorem tailChar_no_dot {b : Nat} (h : tailChar b = true) : b ≠ 46 := by
  rintro rfl; revert h; decide

theorem instOk_no_dot {x : List Nat} (h : instOk x = true) : 46 ∉ x := by
  cases x with
  | nil => exact List.not_mem_nil
  | cons b bs =>
    simp only [instOk, Bool.and_eq_true, List.all_eq_true] at h
    simp only [List.mem_cons, not_or]
    exact ⟨by rintro rfl; exact absurd h.1 (by decide), fun e => tailChar_no_dot (h.2 46 e) rfl⟩

theorem instOk_of_svcOk {x : List Nat} (h : svcOk x = true) : instOk x = true := by
  cases x with
  | nil => cases h
  | cons b bs =>
    simp only [svcOk, instOk, Bool.and_eq_true, Bool.or_eq_true] at h ⊢
    exact ⟨.inl h.1, h.2⟩

theorem svcOk_no_dot {x : List Nat} (h : svcOk x = true) : 46 ∉ x :=
  instOk_no_dot (instOk_of_svcOk h)

theorem joinDots_splitOn (x : List Nat) : joinDots (splitOn 46 x) = x := by
  induction x with
  | nil => rfl
  | cons b bs ih =>
    obtain ⟨q, ps, hs⟩ := splitOn_eq_cons 46 bs
    rw [splitOn, hs]
    rw [hs] at ih
    split
    · subst b; simp [joinDots, ih]
    · cases ps <;> simpa [joinDots] using ih

theorem splitOn_render (svc inst typ loc : List Nat) (h1 : 46 ∉ svc) (h2 : 46 ∉ inst) (h3 : 46 ∉ typ) :
    splitOn 46 (render svc inst typ loc) = [114, 105] :: svc :: inst :: typ :: splitOn 46 loc := by
  simp [render, splitOn, splitOn_append, h1, h2, h3]

theorem parse_render (svc inst typ loc : List Nat) (h1 : 46 ∉ svc) (h2 : 46 ∉ inst) (h3 : 46 ∉ typ) :
    parse (render svc inst typ loc) =
      if svcOk svc && instOk inst && svcOk typ && locOk loc then
        some { rid := render svc inst typ loc, service := svc, instance_ := inst, type_ := typ, locator := loc }
      else none := by
  obtain ⟨l, ls, hs⟩ := splitOn_eq_cons 46 loc
  rw [parse, splitOn_render _ _ _ _ h1 h2 h3, hs]
  simp only [← hs, joinDots_splitOn, beq_self_eq_true, Bool.true_and]

theorem parse_eq_some {s : List Nat} {p : Parsed} : parse s = some p →
    ∃ svc inst typ loc, s = render svc inst typ loc ∧
      svcOk svc = true ∧ instOk inst = true ∧ svcOk typ = true ∧ locOk loc = true ∧
      p = { rid := s, service := svc, instance_ := inst, type_ := typ, locator := loc } := by
  fun_cases parse s <;> rintro ⟨⟩
  next ri svc inst typ l ls hs loc hc =>
    simp only [Bool.and_eq_true, beq_iff_eq] at hc
    obtain ⟨⟨⟨⟨rfl, h1⟩, h2⟩, h3⟩, h4⟩ := hc
    refine ⟨svc, inst, typ, loc, ?_, h1, h2, h3, h4, rfl⟩
    rw [← joinDots_splitOn s, hs]; simp [joinDots, render, loc]

theorem fromComponents_eq (svc inst typ loc : List Nat) :
    fromComponents svc inst typ loc =
      if svcOk svc && instOk inst && svcOk typ && locOk loc then
        some { rid := render svc inst typ loc, service := svc, instance_ := inst, type_ := typ, locator := loc }
      else none := by
  fun_cases fromComponents svc inst typ loc
  next hd =>
    simp only [Bool.or_eq_true, List.contains_iff_mem] at hd
    rw [if_neg]
    simp only [Bool.and_eq_true]
    rintro ⟨⟨⟨h1, h2⟩, h3⟩, -⟩
    exact hd.elim (fun hd => hd.elim (svcOk_no_dot h1) (instOk_no_dot h2)) (svcOk_no_dot h3)
  next hd =>
    simp only [Bool.or_eq_true, List.contains_iff_mem, not_or] at hd
    exact parse_render _ _ _ _ hd.1.1 hd.1.2 hd.2

end ConjureVerif.Rid

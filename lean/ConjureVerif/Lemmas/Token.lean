import ConjureVerif.Model.Token
/-
`stripPad` takes off exactly the trailing `=`: what it takes off is nothing but `=` (`stripPad_append_pad`), and a body
that does not end in `=` comes back whole from under any such tail (`stripPad_append`).
-/
namespace ConjureVerif.Token

theorem stripPad_append_pad (s : List Nat) : ∃ pad, s = stripPad s ++ pad ∧ ∀ b ∈ pad, b = 61 := by
  refine ⟨(s.reverse.takeWhile (· == 61)).reverse, ?_, fun b hb => ?_⟩
  · rw [stripPad, ← List.reverse_append, List.takeWhile_append_dropWhile, List.reverse_reverse]
  · exact beq_iff_eq.mp (List.all_eq_true.mp List.all_takeWhile b (List.mem_reverse.mp hb))

theorem stripPad_append (body pad : List Nat) (hp : ∀ b ∈ pad, b = 61) (hb : ∀ x, body.getLast? = some x → x ≠ 61) :
    stripPad (body ++ pad) = body := by
  rw [stripPad, List.reverse_append,
    List.dropWhile_append_of_pos fun b h => beq_iff_eq.mpr (hp b (List.mem_reverse.mp h))]
  rw [← List.head?_reverse] at hb
  cases hr : body.reverse with
  | nil => rw [← List.reverse_reverse body, hr]; rfl
  | cons x xs =>
    rw [List.dropWhile_cons_of_neg (by simpa using hb x (by rw [hr]; rfl)), ← hr, List.reverse_reverse]

end ConjureVerif.Token

import ConjureVerif.Model.EnumUnion
/-
What C10 needs of the generated enum and union readers: `indexOf` is core's `findIdx?`, and the generated `visit_map` on
the two documents that name one variant, `{"type": t, t: p}` and `{t: p, "type": t}`, reads `p` as the tag of `t` says
(`unionDe_tagged`) or rejects both when `t` has no tag (`unionDe_untagged`).
-/
namespace ConjureVerif.EnumUnion
open ConjureVerif.Data ConjureVerif.Wrap ConjureVerif.AnyM

theorem indexOf_eq (values : List (List Nat)) (s : List Nat) : indexOf values s = values.findIdx? (· == s) :=
  go values 0
where
  go (values : List (List Nat)) (k : Nat) : indexOf.go s values k = List.findIdx?.go (· == s) values k := by
    induction values generalizing k with
    | nil => rfl
    | cons v vs ih => rw [indexOf.go, List.findIdx?.go, ih]; simp only [beq_iff_eq]

theorem indexOf_get {values : List (List Nat)} {s : List Nat} {i : Nat} (h : indexOf values s = some i) :
    values[i]? = some s := by
  obtain ⟨hi, hs, -⟩ := List.findIdx?_eq_some_iff_getElem.mp (indexOf_eq values s ▸ h)
  rw [List.getElem?_eq_getElem hi, eq_of_beq hs]

variable (fmt : Fmt) (side : Side) {exh : Bool} {vs : List UVariant} {t : List Nat}

theorem variantOf_listed (exh : Bool) {i : Nat} (h : indexOf (vs.map (·.name)) t = some i) :
    variantOf exh vs t = some (.known i) := by
  rw [variantOf, h]

theorem variantOf_unlisted (exh : Bool) (h : indexOf (vs.map (·.name)) t = none) :
    variantOf exh vs t = if exh then none else some (.unknown t) := by
  rw [variantOf, h]

theorem unionDe_tagged {tag : VTag} (p : Doc) (hv : variantOf exh vs t = some tag) (ht : t ≠ typeKey) :
    unionDe fmt side exh vs (.obj (.cons (.text typeKey) (.str t) (.cons (.text t) p .nil))) =
      payloadOf fmt side vs tag p ∧
    unionDe fmt side exh vs (.obj (.cons (.text t) p (.cons (.text typeKey) (.str t) .nil))) =
      payloadOf fmt side vs tag p := by
  simp only [unionDe, ht, hv, if_true, if_false, true_and]
  -- value first: the payload is read before the `type` member is looked at, so its error, if any, comes first
  cases payloadOf fmt side vs tag p <;> rfl

theorem unionDe_untagged (p : Doc) (hv : variantOf exh vs t = none) (ht : t ≠ typeKey) :
    unionDe fmt side exh vs (.obj (.cons (.text typeKey) (.str t) (.cons (.text t) p .nil))) = .error .other ∧
    unionDe fmt side exh vs (.obj (.cons (.text t) p (.cons (.text typeKey) (.str t) .nil))) = .error .other := by
  simp only [unionDe, ht, hv, if_true, if_false, and_self]

theorem payloadOf_known {fmt : Fmt} {side : Side} {i : Nat} {p : Doc} {r : UVal}
    (h : payloadOf fmt side vs (.known i) p = .ok r) : ∃ v, r = .known i v := by
  simp only [payloadOf] at h
  split at h
  · next uv _ =>
    cases hd : de fmt side uv.ty p with
    | error e => rw [hd] at h; cases h
    | ok v => rw [hd] at h; cases h; exact ⟨v, rfl⟩
  · cases h

end ConjureVerif.EnumUnion

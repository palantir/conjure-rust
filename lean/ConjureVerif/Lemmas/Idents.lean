import ConjureVerif.Model.Idents
import ConjureVerif.Lemmas.Pins
/-
Why a trailing `_` escapes: no Rust keyword ends in an underscore, so a name with one appended is none of them.
-/
namespace ConjureVerif.Idents

theorem contains_append_eq_false {ks : List String} {s : String} (h : ∀ k ∈ ks, k.endsWith s = false) (e : String) :
    ks.contains (e ++ s) = false := by
  rw [← Bool.not_eq_true, List.contains_iff_mem]
  intro hm
  have := h _ hm
  rw [String.endsWith_append] at this
  cases this

/-- the escaping rule of `ident_name` and `type_name`, a trailing `_` for the listed names: the result stays out of `kw`
when no name of `kw` ends in an underscore and the name itself, if in `kw`, is listed -/
theorem escape_avoids {escaped kw : List String} (h1 : ∀ k ∈ kw, k.endsWith "_" = false) {s : String}
    (h2 : s ∈ kw → s ∈ escaped) : (if escaped.contains s then s ++ "_" else s) ∉ kw := by
  split
  · exact fun h => by cases (contains_append_eq_false h1 s).symm.trans (List.contains_iff_mem.mpr h)
  · next unlisted => exact fun h => unlisted (List.contains_iff_mem.mpr (h2 h))

theorem keywords_no_underscore : ∀ k ∈ keywords, k.endsWith "_" = false := by
  simp (disch := rfl) only [keywords, strictKeywords, reservedKeywords, List.cons_append, List.nil_append,
    List.forall_mem_cons, String.endsWith_eq_isSuffixOf, String.toList_of_eq]
  decide +kernel

end ConjureVerif.Idents

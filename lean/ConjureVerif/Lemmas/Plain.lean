import ConjureVerif.Model.Plain
import ConjureVerif.Lemmas.Dec
import ConjureVerif.Lemmas.Uri
/-
The two structured PLAIN texts read back as what was written.  A uuid is five hex groups joined by hyphens: no hex
digit is a hyphen, so splitting at hyphens returns the groups, and each group unhexes to its bytes.  A datetime is a
row of zero-padded fields of fixed width: `readN_padN` reads one field back, and the fraction chrono writes (0, 3, 6
or 9 digits, always followed by a non-digit) is one padded field scaled to nanoseconds (`readFrac_padN`).
-/
namespace ConjureVerif.Plain
open ConjureVerif

theorem unhexD_hexLower : ∀ n < 16, Uri.unhexD (hexLower n) = some n := by decide

theorem hexLower_ne_hyphen (n : Nat) : hexLower n ≠ 45 := by
  fun_cases hexLower n <;> omega

theorem hexEnc_cons (b : Nat) (bs : List Nat) :
    hexEnc (b :: bs) = hexLower (b / 16) :: hexLower (b % 16) :: hexEnc bs := rfl

theorem unhexPairs_hexEnc (bs : List Nat) (h : ∀ b ∈ bs, b < 256) : unhexPairs (hexEnc bs) = some bs := by
  induction bs with
  | nil => rfl
  | cons b bs ih =>
    rw [List.forall_mem_cons] at h
    rw [hexEnc_cons, unhexPairs, unhexD_hexLower _ (Nat.div_lt_of_lt_mul h.1),
      unhexD_hexLower _ (Nat.mod_lt _ (by decide)), ih h.2]
    simp only [Nat.div_add_mod']

theorem hyphen_not_mem_hexEnc (bs : List Nat) : 45 ∉ hexEnc bs := by
  simp only [hexEnc, List.mem_flatMap, List.mem_cons, List.not_mem_nil, or_false, not_exists, not_and, not_or]
  exact fun b _ => ⟨(hexLower_ne_hyphen _).symm, (hexLower_ne_hyphen _).symm⟩

theorem hexEnc_length (bs : List Nat) : (hexEnc bs).length = 2 * bs.length := by
  induction bs with
  | nil => rfl
  | cons b bs ih => rw [hexEnc_cons, List.length_cons, List.length_cons, ih, List.length_cons, Nat.mul_succ]

theorem splitOn_joinHyphen (ps : List (List Nat)) (hne : ps ≠ []) (h : ∀ p ∈ ps, 45 ∉ p) :
    Uri.splitOn 45 (joinHyphen ps) = ps := by
  induction ps with
  | nil => exact absurd rfl hne
  | cons p rest ih =>
    rw [List.forall_mem_cons] at h
    cases rest with
    | nil => exact Uri.splitOn_not_mem 45 p h.1
    | cons q qs => rw [joinHyphen, Uri.splitOn_append 45 p _ h.1, ih (by simp) h.2]

theorem uuidParse_uuidText (u : List Nat) (hl : u.length = 16) (hb : ∀ b ∈ u, b < 256) :
    uuidParse (uuidText u) = some u := by
  have hcat : u.take 4 ++ (u.drop 4).take 2 ++ (u.drop 6).take 2 ++ (u.drop 8).take 2 ++ u.drop 10 = u := by
    rw [← List.take_add, ← List.take_add, ← List.take_add, List.take_append_drop]
  rw [← hcat] at hb
  simp only [List.forall_mem_append] at hb
  obtain ⟨⟨⟨⟨g1, g2⟩, g3⟩, g4⟩, g5⟩ := hb
  have hlen : (uuidText u).length = 36 := by
    simp [uuidText, uuidGroups, joinHyphen, hexEnc_length, hl]
  -- no hex digit is a hyphen, so splitting at the hyphens gives the five groups back
  rw [uuidParse, if_neg (by rw [hlen]; decide), if_pos hlen, uuidParseHyphenated, uuidText,
    splitOn_joinHyphen _ (by simp [uuidGroups]) fun p hp => by
      obtain ⟨g, -, rfl⟩ := List.mem_map.mp hp; exact hyphen_not_mem_hexEnc g]
  simp only [uuidGroups, List.map, hexEnc_length, List.length_take, List.length_drop, hl]
  rw [if_pos (by decide), unhexPairs_hexEnc _ g1, unhexPairs_hexEnc _ g2, unhexPairs_hexEnc _ g3,
    unhexPairs_hexEnc _ g4, unhexPairs_hexEnc _ g5]
  exact congrArg some hcat

theorem padN_length (n v : Nat) : (padN n v).length = n := by
  induction n generalizing v with
  | zero => rfl
  | succ n ih => simp [padN, ih]

theorem padN_all_digit (n v : Nat) : ∀ c ∈ padN n v, Dec.isDigit c = true := by
  induction n generalizing v with
  | zero => exact List.forall_mem_nil _
  | succ n ih =>
    simp only [padN, List.forall_mem_append, List.forall_mem_cons]
    exact ⟨ih _, Dec.isDigit_digit _, List.forall_mem_nil _⟩

theorem div_ten_lt {n v : Nat} (hv : v < 10 ^ (n + 1)) : v / 10 < 10 ^ n :=
  Nat.div_lt_of_lt_mul (Nat.pow_succ' ▸ hv)

theorem readN_padN (n v : Nat) (rest : List Nat) (hv : v < 10 ^ n) :
    readN n (padN n v ++ rest) = some (v, rest) := by
  induction n generalizing v rest with
  | zero => rw [Nat.lt_one_iff.mp hv]; rfl
  | succ n ih =>
    rw [padN, List.append_assoc, readN, ih _ _ (div_ten_lt hv)]
    simp only [List.cons_append, List.nil_append, Dec.isDigit_digit, if_true, Nat.add_sub_cancel_left,
      Nat.div_add_mod']

theorem digitsVal_padN (n v : Nat) (hv : v < 10 ^ n) : Dec.digitsVal (padN n v) = v := by
  induction n generalizing v with
  | zero => rw [Nat.lt_one_iff.mp hv]; rfl
  | succ n ih => rw [padN, Dec.digitsVal_append, ih _ (div_ten_lt hv), Nat.add_sub_cancel_left, Nat.div_add_mod']

theorem digitsVal_append_zeros (a : List Nat) (k : Nat) :
    Dec.digitsVal (a ++ List.replicate k 48) = Dec.digitsVal a * 10 ^ k := by
  induction k with
  | zero => simp
  | succ k ih =>
    rw [List.replicate_succ', ← List.append_assoc, Dec.digitsVal_append, ih, Nat.pow_succ, Nat.mul_assoc]; rfl

theorem takeDigits_append (ds : List Nat) (h : ∀ x ∈ ds, Dec.isDigit x = true) (c : Nat) (rest : List Nat)
    (hc : Dec.isDigit c = false) : takeDigits (ds ++ c :: rest) = (ds, c :: rest) := by
  induction ds with
  | nil => simp [takeDigits, hc]
  | cons d ds ih =>
    rw [List.forall_mem_cons] at h
    simp [takeDigits, h.1, ih h.2]

theorem fracVal_padN (k x : Nat) (hk : k ≤ 9) (hx : x < 10 ^ k) :
    fracVal (padN k x) = x * 10 ^ (9 - k) := by
  rw [fracVal, List.take_append, padN_length, List.take_of_length_le (by rw [padN_length]; exact hk),
    List.take_replicate, Nat.min_eq_left (Nat.sub_le 9 k), digitsVal_append_zeros, digitsVal_padN _ _ hx]

/-- a fraction of `k` digits followed by a non-digit: `ns` nanoseconds counted in units of `10 ^ (9 - k)`,
    where that is exact -/
theorem readFrac_padN (k ns : Nat) (hk : 1 ≤ k) (hk9 : k ≤ 9) (hns : ns < 10 ^ 9) (hd : ns % 10 ^ (9 - k) = 0)
    (c : Nat) (rest : List Nat) (hc : Dec.isDigit c = false) :
    readFrac (46 :: padN k (ns / 10 ^ (9 - k)) ++ c :: rest) = (some ns, c :: rest) := by
  have hne : (padN k (ns / 10 ^ (9 - k))).isEmpty = false :=
    List.isEmpty_eq_false_iff.mpr (List.ne_nil_of_length_pos (by rw [padN_length]; exact hk))
  have hx : ns / 10 ^ (9 - k) < 10 ^ k :=
    Nat.div_lt_of_lt_mul (by rwa [← Nat.pow_add, Nat.sub_add_cancel hk9])
  simp only [readFrac, List.cons_append, takeDigits_append _ (padN_all_digit k _) c rest hc, hne,
    Bool.false_eq_true, if_false, fracVal_padN k _ hk9 hx, Nat.div_mul_cancel (Nat.dvd_of_mod_eq_zero hd)]

theorem readFrac_fracText (ns : Nat) (h : ns ≤ 999999999) (c : Nat) (rest : List Nat)
    (hc : Dec.isDigit c = false) (hdot : c ≠ 46) :
    readFrac (fracText ns ++ c :: rest) = (some ns, c :: rest) := by
  have h' : ns < 10 ^ 9 := Nat.lt_succ_of_le h
  fun_cases fracText ns
  · next h0 => subst h0; rw [List.nil_append, readFrac]; exact fun _ e => hdot (List.cons.inj e).1
  · next h3 => exact readFrac_padN 3 ns (by decide) (by decide) h' h3 c rest hc
  · next h6 => exact readFrac_padN 6 ns (by decide) (by decide) h' h6 c rest hc
  · simpa using readFrac_padN 9 ns (by decide) (by decide) h' (Nat.mod_one ns) c rest hc

theorem daysIn_le (y m : Nat) : daysIn y m ≤ 31 := by
  fun_cases daysIn y m <;> decide

end ConjureVerif.Plain

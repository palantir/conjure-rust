import ConjureVerif.Model.DoubleOps
/-
`Lawful o` says that `o.cmp` is a transitive comparison in the sense of core's `Std.TransCmp`, that `o.eq`
decides `o.cmp · · = .eq`, and that `o.hash` respects it (`Lawful.transCmp`, `Lawful.of_transCmp`).  No order law
of a combinator is checked by hand: read with `o.cmp` as the `Ord` instance of the element type, every combinator compares as
core's `compare` does on a type built from `Bool`, `Int`, `Option`, pairs (`lexOrd`) and lists, directly
(`optOps`, `prodOps`, `vecOps`) or through an embedding (`f64Ops`, `sumOps`), and core has `TransOrd` for those.

For the sorted-list sets, `sfind_sins` is the one fact about lookup after insertion: both walk the list the same
way, so it needs no sortedness.
-/
namespace ConjureVerif.DoubleOps
open Std (ReflCmp OrientedCmp TransCmp TransOrd)

structure Lawful {α : Type} (o : Ops α) : Prop where
  cmp_refl : ∀ a, o.cmp a a = .eq
  cmp_swap : ∀ a b, o.cmp b a = (o.cmp a b).swap
  lt_trans : ∀ a b c, o.cmp a b = .lt → o.cmp b c = .lt → o.cmp a c = .lt
  eq_congr : ∀ a b c, o.cmp a b = .eq → o.cmp a c = o.cmp b c
  eq_iff : ∀ a b, o.cmp a b = .eq ↔ o.eq a b = true
  hash_eq : ∀ a b, o.eq a b = true → o.hash a = o.hash b

variable {α β : Type} {o : Ops α}

namespace Lawful

theorem transCmp (h : Lawful o) : TransCmp o.cmp where
  eq_swap := h.cmp_swap _ _
  isLE_trans {a b c} hab hbc := by
    cases e₁ : o.cmp a b with
    | gt => rw [e₁] at hab; cases hab
    | eq => rwa [h.eq_congr a b c e₁]
    | lt => cases e₂ : o.cmp b c with
      | gt => rw [e₂] at hbc; cases hbc
      | lt => rw [h.lt_trans a b c e₁ e₂]; rfl
      | eq =>
        -- `eq_congr` in the second argument: swap, use it in the first, swap back
        rw [h.cmp_swap c a, ← h.eq_congr b c a e₂, ← h.cmp_swap b a, e₁]; rfl

theorem of_transCmp (_ : TransCmp o.cmp)
    (eq_iff : ∀ a b, o.cmp a b = .eq ↔ o.eq a b = true)
    (hash_eq : ∀ a b, o.eq a b = true → o.hash a = o.hash b) : Lawful o where
  cmp_refl _ := ReflCmp.compare_self
  cmp_swap _ _ := OrientedCmp.eq_swap
  lt_trans _ _ _ := TransCmp.lt_trans
  eq_congr _ _ _ := TransCmp.congr_left
  eq_iff := eq_iff
  hash_eq := hash_eq

theorem eq_refl (h : Lawful o) (a : α) : o.eq a a = true :=
  (h.eq_iff a a).mp (h.cmp_refl a)

theorem le_trans (h : Lawful o) (a b c : α)
    (h1 : o.cmp a b ≠ .gt) (h2 : o.cmp b c ≠ .gt) : o.cmp a c ≠ .gt :=
  have := h.transCmp
  Ordering.isLE_iff_ne_gt.mp <|
    TransCmp.isLE_trans (Ordering.isLE_iff_ne_gt.mpr h1) (Ordering.isLE_iff_ne_gt.mpr h2)

end Lawful

/-- `icmp` is `compare` on `Int`, written out -/
instance : TransCmp icmp := inferInstanceAs (Std.TransOrd Int)

theorem icmp_lt {x y : Int} : icmp x y = .lt ↔ x < y := Int.compare_eq_lt
theorem icmp_eq {x y : Int} : icmp x y = .eq ↔ x = y := Int.compare_eq_eq
theorem icmp_gt {x y : Int} : icmp x y = .gt ↔ y < x := Int.compare_eq_gt

theorem lawful_key : Lawful keyOps :=
  .of_transCmp (inferInstanceAs (TransCmp icmp)) (fun _ _ => icmp_eq.trans decide_eq_true_iff.symm)
    (fun _ _ e => of_decide_eq_true e ▸ rfl)

attribute [local instance] lexOrd

/-- a double is ordered as the pair (is it NaN, its number) -/
theorem lawful_f64 : Lawful f64Ops :=
  have e : compareOn (fun | .nan => (true, 0) | .num k => (false, k) : D → Bool × Int) = f64Ops.cmp := by
    funext a b; cases a <;> cases b <;> rfl
  .of_transCmp (e ▸ inferInstance)
    (fun
      | .num _, .num _ => icmp_eq.trans (by simp [f64Ops])
      | .nan, .nan => iff_of_true rfl rfl
      | .nan, .num _ | .num _, .nan => iff_of_false nofun (by simp [f64Ops]))
    (fun _ _ e => of_decide_eq_true e ▸ rfl)

theorem lawful_opt (h : Lawful o) : Lawful (optOps o) :=
  letI : Ord α := ⟨o.cmp⟩
  have : TransOrd α := h.transCmp
  .of_transCmp (inferInstanceAs (TransOrd (Option α)))
    (fun
      | some a, some b => h.eq_iff a b
      | none, none => iff_of_true rfl rfl
      | none, some _ | some _, none => iff_of_false nofun nofun)
    (fun
      | some a, some b, e => congrArg (List.cons _) (h.hash_eq a b e)
      | none, none, _ => rfl)

/-- a union is ordered as the pair (payload of the second variant, payload of the first), absent below present -/
theorem lawful_sum {α β : Type} {oa : Ops α} {ob : Ops β} (ha : Lawful oa) (hb : Lawful ob) :
    Lawful (sumOps oa ob) :=
  letI : Ord α := ⟨oa.cmp⟩
  letI : Ord β := ⟨ob.cmp⟩
  have : TransOrd α := ha.transCmp
  have : TransOrd β := hb.transCmp
  have e : compareOn (fun | .inl x => (none, some x) | .inr y => (some y, none) : Sum α β → Option β × Option α) =
      (sumOps oa ob).cmp := by
    funext a b
    cases a <;> cases b
    · rfl
    · rfl
    · rfl
    · exact Ordering.then_eq
  .of_transCmp (e ▸ inferInstance)
    (fun
      | .inl a, .inl b => ha.eq_iff a b
      | .inr a, .inr b => hb.eq_iff a b
      | .inl _, .inr _ | .inr _, .inl _ => iff_of_false nofun nofun)
    (fun
      | .inl a, .inl b, e => congrArg (List.cons _) (ha.hash_eq a b e)
      | .inr a, .inr b, e => congrArg (List.cons _) (hb.hash_eq a b e))

theorem then_eq_iff_and {c d : Ordering} {p q : Bool} (hc : c = .eq ↔ p = true) (hd : d = .eq ↔ q = true) :
    c.then d = .eq ↔ (p && q) = true := by
  rw [Ordering.then_eq_eq, Bool.and_eq_true, hc, hd]

theorem lawful_prod {α β : Type} {oa : Ops α} {ob : Ops β} (ha : Lawful oa) (hb : Lawful ob) :
    Lawful (prodOps oa ob) :=
  letI : Ord α := ⟨oa.cmp⟩
  letI : Ord β := ⟨ob.cmp⟩
  have : TransOrd α := ha.transCmp
  have : TransOrd β := hb.transCmp
  .of_transCmp (inferInstanceAs (TransOrd (α × β)))
    (fun a b => then_eq_iff_and (ha.eq_iff a.1 b.1) (hb.eq_iff a.2 b.2))
    (fun a b e => by
      obtain ⟨e₁, e₂⟩ := Bool.and_eq_true_iff.mp e
      show oa.hash a.1 ++ ob.hash a.2 = _
      rw [ha.hash_eq _ _ e₁, hb.hash_eq _ _ e₂]; rfl)

theorem pairOps_eq_prodOps (o : Ops α) : pairOps o = prodOps keyOps o := rfl

theorem vecCmp_eq_compareLex (o : Ops α) : vecCmp o = List.compareLex o.cmp := by
  funext a b
  induction a generalizing b with
  | nil => cases b <;> rfl
  | cons x xs ih => cases b with
    | nil => rfl
    | cons y ys => rw [List.compareLex_cons_cons, ← ih]; rfl

theorem vecCmp_eq_iff (h : Lawful o) (a b : List α) : vecCmp o a b = .eq ↔ vecEq o a b = true := by
  induction a generalizing b with
  | nil => cases b with
    | nil => exact iff_of_true rfl rfl
    | cons => exact iff_of_false nofun nofun
  | cons x xs ih => cases b with
    | nil => exact iff_of_false nofun nofun
    | cons y ys => exact then_eq_iff_and (h.eq_iff x y) (ih ys)

theorem vecEq_hash (h : Lawful o) (a b : List α) (e : vecEq o a b = true) :
    a.length = b.length ∧ a.flatMap o.hash = b.flatMap o.hash := by
  fun_induction vecEq o a b with
  | case1 => exact ⟨rfl, rfl⟩
  | case2 x xs y ys ih =>
    obtain ⟨e₁, e₂⟩ := Bool.and_eq_true_iff.mp e
    obtain ⟨l, f⟩ := ih e₂
    exact ⟨congrArg (· + 1) l, by rw [List.flatMap_cons, List.flatMap_cons, h.hash_eq x y e₁, f]⟩
  | case3 => cases e

theorem lawful_vec {α : Type} {o : Ops α} (h : Lawful o) : Lawful (vecOps o) :=
  have := h.transCmp
  .of_transCmp (vecCmp_eq_compareLex o ▸ inferInstance : TransCmp (vecCmp o)) (vecCmp_eq_iff h)
    (fun a b e => by obtain ⟨l, f⟩ := vecEq_hash h a b e; simp only [vecOps, l, f])

theorem lawful_map {α : Type} {o : Ops α} (h : Lawful o) : Lawful (mapOps o) :=
  lawful_vec (pairOps_eq_prodOps o ▸ lawful_prod lawful_key h)

def Sorted {α : Type} (o : Ops α) (l : List α) : Prop := l.Pairwise (fun a b => o.cmp a b = .lt)

theorem mem_sins (x z : α) (l : List α) : z ∈ sins o x l → z = x ∨ z ∈ l := by
  fun_induction sins o x l with
  | case1 => exact fun hz => .inl (List.mem_singleton.mp hz)
  | case2 => exact List.mem_cons.mp
  | case3 => exact .inr
  | case4 y ys _ ih =>
    intro hz
    rcases List.mem_cons.mp hz with rfl | hz
    · exact .inr List.mem_cons_self
    · exact (ih hz).imp_right (List.mem_cons_of_mem y)

theorem sins_sorted (h : Lawful o) (x : α) (l : List α) (hs : Sorted o l) : Sorted o (sins o x l) := by
  have := h.transCmp
  fun_induction sins o x l with
  | case1 => exact List.pairwise_singleton ..
  | case2 y ys hc =>
    -- `x` goes in front of `y`, and is below whatever `y` is below
    refine List.pairwise_cons.mpr ⟨fun z hz => ?_, hs⟩
    exact (List.mem_cons.mp hz).elim (· ▸ hc) fun hz => TransCmp.lt_trans hc (List.rel_of_pairwise_cons hs hz)
  | case3 => exact hs
  | case4 y ys hc ih =>
    -- `x` goes somewhere behind `y`: what is behind `y` then is `x` or was there before
    obtain ⟨hy, hys⟩ := List.pairwise_cons.mp hs
    refine List.pairwise_cons.mpr ⟨fun z hz => ?_, ih hys⟩
    exact (mem_sins x z ys hz).elim (· ▸ OrientedCmp.lt_of_gt hc) (hy z)

theorem sfind_sins (h : Lawful o) (x z : α) (l : List α) :
    sfind o z (sins o x l) = (sfind o z l || o.cmp z x == .eq) := by
  have := h.transCmp
  fun_induction sins o x l with
  | case1 => simp only [sfind]; cases o.cmp z x <;> rfl
  | case2 y ys hxy =>
    -- `x` goes in front of `y`: a `z` below `x` is below `y` too
    simp only [sfind]
    cases hzx : o.cmp z x with
    | lt => rw [TransCmp.lt_trans hzx hxy]; rfl
    | eq => exact (Bool.or_true _).symm
    | gt => exact (Bool.or_false _).symm
  | case3 y ys hxy =>
    -- nothing is inserted: a `z` equal to `x` is equal to `y`
    cases hzx : o.cmp z x with
    | eq => rw [sfind, TransCmp.eq_trans hzx hxy]; rfl
    | _ => exact (Bool.or_false _).symm
  | case4 y ys hxy ih =>
    -- `x` goes somewhere behind `y`: a `z` below `y` is below `x` too
    simp only [sfind]
    cases hzy : o.cmp z y with
    | lt => rw [TransCmp.lt_trans hzy (OrientedCmp.lt_of_gt hxy)]; rfl
    | eq => rfl
    | gt => exact ih

def buildSet {α : Type} (o : Ops α) (l : List α) : List α := l.foldl (fun acc y => sins o y acc) []

theorem foldl_sins_sorted (h : Lawful o) (l acc : List α) (hs : Sorted o acc) :
    Sorted o (l.foldl (fun acc y => sins o y acc) acc) := by
  induction l generalizing acc with
  | nil => exact hs
  | cons y ys ih => exact ih _ (sins_sorted h y acc hs)

theorem sfind_foldl_sins (h : Lawful o) (z : α) (l acc : List α) :
    sfind o z (l.foldl (fun acc y => sins o y acc) acc) = (sfind o z acc || l.any (o.cmp z · == .eq)) := by
  induction l generalizing acc with
  | nil => simp
  | cons y ys ih => rw [List.foldl_cons, ih, sfind_sins h, List.any_cons, Bool.or_assoc]

end ConjureVerif.DoubleOps

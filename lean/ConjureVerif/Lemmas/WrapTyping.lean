import ConjureVerif.Lemmas.WrapBase
namespace ConjureVerif.Wrap
open ConjureVerif.Data

/-- variant names identify variants: looking a variant's name up finds that variant -/
def Distinct (vs : Variants) : Prop :=
  ∀ i name k p, vs.get? i = some (name, k, p) → vs.find? name 0 = some (i, k, p)

/-- values that may be map keys, with the side conditions under which their text parses back -/
inductive KeyOk : Ty → Val → Prop
  | bool (b : Bool) : KeyOk .bool (.bool b)
  | int (w : IntW) (n : Int) : w.contains n = true → KeyOk (.int w) (.int n)
  | f64 (d : Dbl) : KeyOk .f64 (.f64 d)
  | f32 (d : Dbl) : KeyOk .f32 (.f32 d)
  | str (s : List Nat) : KeyOk .str (.str s)
  | bytes (bs : List Nat) : Bytes bs → KeyOk .bytes (.bytes bs)
  | uuid (bs : List Nat) : bs.length = 16 → Bytes bs → KeyOk .uuid (.uuid bs)
  | newtype (t : Ty) (v : Val) : KeyOk t v → KeyOk (.newtype t) (.newtype v)
  | unitVariant (vs : Variants) (i : Nat) (name : List Nat) (pty : Ty) :
      vs.get? i = some (name, .unit, pty) → Distinct vs → KeyOk (.enum vs) (.variant i .unit)

theorem deKey_serKey {kt : Ty} {k : Val} (h : KeyOk kt k) :
    ∃ key, serKey kt k = some key ∧ deKey kt key = .ok k := by
  induction h with
  | bool b => exact ⟨_, rfl, by cases b <;> rfl⟩
  | int w n hw => exact ⟨_, rfl, by simp only [deKey, Dec.parseJson_showInt, hw, if_true]⟩
  | f64 d | f32 d => exact ⟨_, rfl, by cases d <;> rfl⟩
  | str s => exact ⟨_, rfl, rfl⟩
  | bytes bs hb => exact ⟨_, rfl, by simp only [deKey, Base64.decode_encode bs hb]⟩
  | uuid bs hl hb => exact ⟨_, rfl, by simp only [deKey, Plain.uuidParse_uuidText bs hl hb]⟩
  | newtype t v _ ih =>
    obtain ⟨key, h1, h2⟩ := ih
    exact ⟨key, h1, by simp only [deKey, h2, map_ok]⟩
  | unitVariant vs i name pty hg hd =>
    exact ⟨.text name, by simp only [serKey, hg], by simp only [deKey, hd i name .unit pty hg]⟩

mutual
  /-- `v` is a value of serde type `t` (with the side conditions Conjure's data model guarantees:
      integers fit their width, bytes are bytes, an optional's payload never serializes to `null`,
      field and variant names are distinct, map keys are key-able) -/
  inductive HasTy : Ty → Val → Prop
    | bool (b : Bool) : HasTy .bool (.bool b)
    | int (w : IntW) (n : Int) : w.contains n = true → HasTy (.int w) (.int n)
    | f64 (d : Dbl) : HasTy .f64 (.f64 d)
    | f32 (d : Dbl) : HasTy .f32 (.f32 d)
    | str (s : List Nat) : HasTy .str (.str s)
    | bytes (bs : List Nat) : Bytes bs → HasTy .bytes (.bytes bs)
    | unit : HasTy .unit .unit
    | uuid (bs : List Nat) : bs.length = 16 → Bytes bs → HasTy .uuid (.uuid bs)
    | none (t : Ty) : HasTy (.option t) .none
    | some (t : Ty) (v : Val) : HasTy t v → (∀ fmt, ser fmt t v ≠ some .null) → HasTy (.option t) (.some v)
    | seq (t : Ty) (vs : Vals) : HasTyL t vs → HasTy (.seq t) (.seq vs)
    | tuple (ts : Tys) (vs : Vals) : HasTyT ts vs → HasTy (.tuple ts) (.tuple vs)
    | map (kt vt : Ty) (es : Entries) : HasTyE kt vt es → HasTy (.map kt vt) (.map es)
    | unitStruct : HasTy .unitStruct .unitStruct
    | newtype (t : Ty) (v : Val) : HasTy t v → HasTy (.newtype t) (.newtype v)
    | tupleStruct (ts : Tys) (vs : Vals) : HasTyT ts vs → HasTy (.tupleStruct ts) (.tupleStruct vs)
    | struct (fs : Fields) (vs : FVals) : fs.names.Nodup → HasTyF fs vs → HasTy (.struct fs) (.struct vs)
    | unitVariant (vs : Variants) (i : Nat) (name : List Nat) (pty : Ty) :
        vs.get? i = some (name, .unit, pty) → Distinct vs → HasTy (.enum vs) (.variant i .unit)
    | newtypeVariant (vs : Variants) (i : Nat) (name : List Nat) (pty : Ty) (p : Val) :
        vs.get? i = some (name, .newtype, pty) → Distinct vs → HasTy pty p → HasTy (.enum vs) (.variant i p)
    | tupleVariant (vs : Variants) (i : Nat) (name : List Nat) (ts : Tys) (ps : Vals) :
        vs.get? i = some (name, .tuple, .tuple ts) → Distinct vs → HasTyT ts ps →
        HasTy (.enum vs) (.variant i (.tuple ps))
    | structVariant (vs : Variants) (i : Nat) (name : List Nat) (fs : Fields) (ps : FVals) :
        vs.get? i = some (name, .struct, .struct fs) → Distinct vs → fs.names.Nodup → HasTyF fs ps →
        HasTy (.enum vs) (.variant i (.struct ps))
  inductive HasTyL : Ty → Vals → Prop
    | nil (t : Ty) : HasTyL t .nil
    | cons (t : Ty) (v : Val) (vs : Vals) : HasTy t v → HasTyL t vs → HasTyL t (.cons v vs)
  inductive HasTyT : Tys → Vals → Prop
    | nil : HasTyT .nil .nil
    | cons (t : Ty) (ts : Tys) (v : Val) (vs : Vals) : HasTy t v → HasTyT ts vs → HasTyT (.cons t ts) (.cons v vs)
  inductive HasTyF : Fields → FVals → Prop
    | nil : HasTyF .nil .nil
    | cons (n : List Nat) (t : Ty) (fs : Fields) (v : Val) (vs : FVals) :
        HasTy t v → HasTyF fs vs → HasTyF (.cons n t fs) (.cons v vs)
  inductive HasTyE : Ty → Ty → Entries → Prop
    | nil (kt vt : Ty) : HasTyE kt vt .nil
    | cons (kt vt : Ty) (k v : Val) (es : Entries) :
        KeyOk kt k → HasTy vt v → HasTyE kt vt es → HasTyE kt vt (.cons k v es)
end

theorem assemble_enumFrom : ∀ {fs : Fields} {vs : FVals}, HasTyF fs vs → ∀ (k : Nat) (pre : List (Nat × Val)),
    (∀ p ∈ pre, p.1 < k) → assemble fs k (pre ++ enumFrom k vs) = .ok vs :=
  fun h k pre hpre => by
    cases h with
    | nil => rfl
    | cons _ _ _ v _ _ hf =>
      have hrec := assemble_enumFrom hf (k + 1) (pre ++ [(k, v)]) (lt_snoc hpre v)
      rw [List.append_assoc] at hrec
      rw [assemble, List.lookup_append, lookup_lt hpre, Option.none_or, enumFrom, List.lookup_cons_self]
      exact congrArg (Except.map (FVals.cons v)) hrec
termination_by structural _ vs => vs      -- not on the derivation: see `rt` in Lemmas/WrapRoundTrip.lean

theorem assemble_enum {fs : Fields} {vs : FVals} (h : HasTyF fs vs) : assemble fs 0 (enumFrom 0 vs) = .ok vs :=
  assemble_enumFrom h 0 [] (List.forall_mem_nil _)

end ConjureVerif.Wrap

import ConjureVerif.Model.LogSafety
/-
`evalRef` cuts cycles by taking a type in progress (the set `P`) as safe.  Its invariant (`evalRef_sound`) therefore
speaks of paths that avoid `P` (`RA`): a path from `t` is cut at its last visit of `t` (`RA.last_occurrence`), what is
left starts at a child and avoids `t :: P`, so an answer never rests on the provisional one.  `free N P`, the number of
type names below `N` outside `P`, falls at every descent (only a defined type has children), which is why the fuel
`defs.length + 1` suffices.  At the root nothing is in progress, every path avoids `[]`, and the answer is the
specification's (`evalRef_root`); so caching it keeps the cache correct (`queryRef_spec`).
-/
namespace ConjureVerif.LogSafety

def kids (defs : List Def) (t : Nat) : List Nat := (nodeAt defs t).2
def ownOk (defs : List Def) (t : Nat) : Bool := (nodeAt defs t).1

/-- `u` is reachable from `t` through undeclared references -/
inductive Reach (defs : List Def) : Nat → Nat → Prop
  | refl (t) : Reach defs t t
  | step (t c u) : c ∈ kids defs t → Reach defs c u → Reach defs t u

/-- path of length `n` from `t` to `u` all of whose nodes avoid `P` -/
inductive RA (defs : List Def) (P : List Nat) : Nat → Nat → Nat → Prop
  | refl (t) : t ∉ P → RA defs P t t 0
  | step (t c u n) : t ∉ P → c ∈ kids defs t → RA defs P c u n → RA defs P t u (n + 1)

theorem RA.head_notin {defs P t u n} (h : RA defs P t u n) : t ∉ P := by cases h <;> assumption

theorem RA.toReach {defs P t u n} (h : RA defs P t u n) : Reach defs t u := by
  induction h with
  | refl t _ => exact .refl t
  | step t c u n _ hc _ ih => exact .step t c u hc ih

theorem Reach.toRA {defs t u} (h : Reach defs t u) : ∃ n, RA defs [] t u n := by
  induction h with
  | refl t => exact ⟨0, .refl t (by simp)⟩
  | step t c u hc _ ih => obtain ⟨n, hn⟩ := ih; exact ⟨n + 1, .step t c u n (by simp) hc hn⟩

theorem Reach.trans {defs t c u} (h1 : Reach defs t c) (h2 : Reach defs c u) : Reach defs t u := by
  induction h1 with
  | refl _ => exact h2
  | step t c' _ hc _ ih => exact .step t c' u hc (ih h2)

theorem RA.avoid_or_cut {defs : List Def} {P : List Nat} (t : Nat) {c u n} (h : RA defs P c u n) :
    RA defs (t :: P) c u n ∨ ∃ m, m ≤ n ∧ RA defs P t u m := by
  induction h with
  | refl c hc =>
    by_cases hct : c = t
    · subst hct; exact .inr ⟨0, Nat.le_refl _, .refl _ hc⟩
    · exact .inl (.refl _ (by simp [hct, hc]))
  | step c d u n hc hd hr ih =>
    by_cases hct : c = t
    · subst hct; exact .inr ⟨n + 1, Nat.le_refl _, .step _ _ _ _ hc hd hr⟩
    · rcases ih with ih | ⟨m, hm, hr'⟩
      · exact .inl (.step _ _ _ _ (by simp [hct, hc]) hd ih)
      · exact .inr ⟨m, by omega, hr'⟩

/-- cut a path at the last visit of its first node -/
theorem RA.last_occurrence {defs : List Def} {P : List Nat} : ∀ n {t u}, RA defs P t u n →
    t = u ∨ ∃ c ∈ kids defs t, ∃ m, RA defs (t :: P) c u m := by
  intro n
  induction n using Nat.strongRecOn with
  | _ n ih =>
    intro t u h
    cases h with
    | refl _ _ => exact .inl rfl
    | step _ c _ n' ht hc hr =>
      rcases RA.avoid_or_cut t hr with h1 | ⟨m, hm, h2⟩
      · exact .inr ⟨c, hc, n', h1⟩
      · exact ih m (by omega) h2

/-- number of type names below `N` not yet in progress -/
def free (N : Nat) (P : List Nat) : Nat := ((List.range N).filter (fun x => x ∉ P)).length

theorem filter_ne_length_lt (t : Nat) : ∀ (L : List Nat), t ∈ L →
    (L.filter (fun x => x ≠ t)).length < L.length := fun _ h =>
  List.length_filter_lt_length_iff_exists.mpr ⟨t, h, by simp⟩

theorem free_cons_lt (N : Nat) (P : List Nat) (t : Nat) (ht : t < N) (hP : t ∉ P) :
    free N (t :: P) < free N P := by
  have : (List.range N).filter (fun x => x ∉ t :: P) =
      ((List.range N).filter (fun x => x ∉ P)).filter (fun x => x ≠ t) := by
    simp [List.filter_filter]
  unfold free
  rw [this]
  exact filter_ne_length_lt t _ (by simp [ht, hP])

theorem free_nil (N : Nat) : free N [] = N := by
  rw [free, List.filter_eq_self.mpr (by simp), List.length_range]

/-- the specification: everything reachable from `t` is, by itself, safe -/
def SpecSafe (defs : List Def) (t : Nat) : Prop := ∀ u, Reach defs t u → ownOk defs u = true

/-- every cached answer is the specification's answer -/
def MemoOK (defs : List Def) (memo : Memo) : Prop := ∀ p ∈ memo, (p.2 = true ↔ SpecSafe defs p.1)

/-- references stay inside the definition list (the Conjure compiler rejects dangling references) -/
def Valid (defs : List Def) : Prop := ∀ t c, c ∈ kids defs t → c < defs.length

theorem lookup_mem {memo : Memo} {t : Nat} {b : Bool} (h : memo.lookup t = some b) : (t, b) ∈ memo := by
  obtain ⟨l₁, l₂, rfl, -⟩ := List.lookup_eq_some_iff.mp h
  simp

theorem lt_of_mem_kids {defs : List Def} {t c : Nat} (h : c ∈ kids defs t) : t < defs.length :=
  Nat.lt_of_not_le fun hle => by simp [kids, nodeAt, List.getElem?_eq_none hle] at h

/-- soundness of a (possibly nested) evaluation, given fuel for more descents than there are free names: a `true`
    answer means every node on every path that avoids the in-progress set is safe -/
theorem evalRef_sound (defs : List Def) (memo : Memo) (hm : MemoOK defs memo) (fuel P t)
    (hf : free defs.length P < fuel) (he : evalRef defs memo fuel P t = true)
    (u n) (hr : RA defs P t u n) : ownOk defs u = true := by
  fun_induction evalRef defs memo fuel P t generalizing u n with
  | case1 => omega      -- no fuel
  | case2 fuel P t b hl => exact (hm _ (lookup_mem hl)).mp he u hr.toReach      -- cached
  | case3 fuel P t hl hc => exact absurd (List.contains_iff_mem.mp hc) hr.head_notin      -- in progress
  | case4 fuel P t hl hc ih =>
    simp only [Bool.and_eq_true, List.all_eq_true] at he
    rcases RA.last_occurrence n hr with h | ⟨c, hcm, m, hr'⟩
    · exact h ▸ he.1
    · have := free_cons_lt defs.length P t (lt_of_mem_kids hcm) hr.head_notin
      exact ih c (by omega) (he.2 c hcm) u m hr'

theorem evalRef_complete (defs : List Def) (memo : Memo) (hm : MemoOK defs memo) (fuel P t)
    (hs : SpecSafe defs t) : evalRef defs memo fuel P t = true := by
  fun_induction evalRef defs memo fuel P t with
  | case1 | case3 => rfl      -- no fuel; in progress
  | case2 fuel P t b hl => exact (hm _ (lookup_mem hl)).mpr hs      -- cached
  | case4 fuel P t hl hc ih =>
    simp only [Bool.and_eq_true, List.all_eq_true]
    exact ⟨hs t (.refl t), fun c hc => ih c fun u hu => hs u (.step t c u hc hu)⟩

theorem evalRef_root (defs : List Def) (memo : Memo) (hm : MemoOK defs memo) (t : Nat) :
    evalRef defs memo (defs.length + 1) [] t = true ↔ SpecSafe defs t := by
  refine ⟨fun he u hu => ?_, evalRef_complete defs memo hm _ [] t⟩
  obtain ⟨n, hn⟩ := hu.toRA
  exact evalRef_sound defs memo hm _ [] t (by rw [free_nil]; omega) he u n hn

theorem queryRef_spec (defs : List Def) (memo : Memo) (hm : MemoOK defs memo) (t : Nat) :
    MemoOK defs (queryRef defs memo t).1 ∧ ((queryRef defs memo t).2 = true ↔ SpecSafe defs t) := by
  have h := evalRef_root defs memo hm t
  unfold queryRef
  cases hl : memo.lookup t with
  | some b => exact ⟨hm, hm _ (lookup_mem hl)⟩
  | none => exact ⟨List.forall_mem_cons.mpr ⟨h, hm⟩, h⟩

theorem queryRefs_spec (defs : List Def) (ts : List Nat) (memo : Memo) (hm : MemoOK defs memo) :
    MemoOK defs (queryRefs defs memo ts).1 ∧ ((queryRefs defs memo ts).2 = true ↔ ∀ t ∈ ts, SpecSafe defs t) := by
  induction ts generalizing memo with
  | nil => simp [queryRefs, hm]
  | cons t ts ih =>
    have h1 := queryRef_spec defs memo hm t
    have h2 := ih _ h1.1
    simp only [queryRefs, Bool.and_eq_true, h1.2, h2.2, List.mem_cons, forall_eq_or_imp, and_true]
    exact h2.1

end ConjureVerif.LogSafety

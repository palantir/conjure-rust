import ConjureVerif.Model.Wire
/-
`canon_idempotent`: what `Wire.canon` returns it returns unchanged (`Idem`), clause by clause of `canon`.  Lists, sets,
maps, unions and aliases hand the claim down to their components.  Objects need more, because a field that is absent,
`null` or an empty collection may be written otherwise than it was read: `fieldPart_again` is the claim for one
declared field, and `flatMap_key` finds that field's member again in the canonical object.
-/
namespace ConjureVerif.Wire
open ConjureVerif ConjureVerif.Data

def Idem {α : Type} (f : α → Option α) : Prop := ∀ x y, f x = some y → f y = some y

theorem docsList_ofDocs (l : List Doc) : docsList (ofDocs l) = l := by
  induction l with
  | nil => rfl
  | cons x xs ih => exact congrArg (x :: ·) ih

theorem members_ofMembers (l : List (Key × Doc)) : members (ofMembers l) = l := by
  induction l with
  | nil => rfl
  | cons m r ih => exact congrArg (m :: ·) ih

theorem allSome_map_some {α : Type} (ys : List α) : allSome (ys.map some) = some ys := by
  induction ys with
  | nil => rfl
  | cons y ys ih => exact congrArg (Option.map (y :: ·)) ih

theorem eq_of_allSome {α : Type} {l : List (Option α)} {ys : List α} : allSome l = some ys → l = ys.map some := by
  fun_induction allSome l generalizing ys with
  | case1 => rintro ⟨⟩; rfl
  | case2 => rintro ⟨⟩
  | case3 x l ih =>
    intro h
    obtain ⟨a, ha, rfl⟩ := Option.map_eq_some_iff.mp h
    rw [ih ha]; rfl

theorem allSome_map_idem {α : Type} {f : α → Option α} (hf : Idem f) : Idem fun xs => allSome (xs.map f) := by
  intro xs ys h
  have h := eq_of_allSome h
  have : ys.map f = ys.map some := List.map_congr_left fun y hy => by
    obtain ⟨x, -, hx⟩ := List.mem_map.mp (h ▸ List.mem_map_of_mem hy : some y ∈ xs.map f)
    exact hf x y hx
  show allSome (ys.map f) = some ys
  rw [this]; exact allSome_map_some ys

theorem exists_of_allSome_map {α β : Type} [Inhabited β] {f : α → Option β} {xs : List α} {ys : List β}
    (h : allSome (xs.map f) = some ys) : ∃ g : α → β, xs.map g = ys ∧ ∀ x ∈ xs, f x = some (g x) := by
  have h := eq_of_allSome h
  refine ⟨fun x => (f x).getD default, ?_, fun x hx => ?_⟩
  · simpa [Function.comp_def] using congrArg (List.map (·.getD default)) h
  · obtain ⟨y, -, hy⟩ := List.mem_map.mp (h ▸ List.mem_map_of_mem hx)
    show f x = some ((f x).getD default)
    rw [← hy]; rfl

theorem primCanon_of_ok {p : Prim} {d : Doc} (h : primOk p d = true) : primCanon p d = some d := by
  unfold primCanon
  split
  · cases h
  · rw [if_pos h]

theorem primCanon_ok {p : Prim} {d d' : Doc} : primCanon p d = some d' → primOk p d' = true := by
  fun_cases primCanon p d <;> rintro ⟨⟩
  · rfl             -- an integer where a double is wanted becomes a finite double
  · assumption      -- anything else is returned as it is, having passed `primOk`

variable {defs : Defs} {cfg : Cfg} {fuel n : Nat}

theorem canon_ref_alias {t : CTy} (hd : defs[n]? = some (.alias t)) (d : Doc) :
    canon defs cfg (fuel + 1) (.ref n) d = canon defs cfg fuel t d := by
  simp only [canon, hd]

theorem shape_ref_alias {t : CTy} (hd : defs[n]? = some (.alias t)) :
    shape defs (fuel + 1) (.ref n) = shape defs fuel t := by
  simp only [shape, hd]

theorem canon_null (fuel : Nat) (t : CTy) (h : ∀ i, shape defs fuel t ≠ .optional i) :
    canon defs cfg fuel t .null = none := by
  induction fuel generalizing t with
  | zero => rfl
  | succ fuel ih =>
    cases t with
    | prim p => cases p <;> rfl
    | optional t => exact absurd rfl (h t)
    | list _ | set _ | map _ _ => rfl
    | ref n =>
      cases hd : defs[n]? with
      | none => simp only [canon, hd]
      | some df =>
        cases df with
        | alias t => rw [canon_ref_alias hd]; rw [shape_ref_alias hd] at h; exact ih t h
        | _ => simp only [canon, hd]

def emptyColl (isMap : Bool) : Doc := if isMap then Doc.obj .nil else Doc.arr .nil

/-- with whatever fuel, a collection-shaped type accepts the empty collection or, for want of fuel, nothing at all:
the alias chain that `shape` followed to a list, set or map is the one `canon` follows -/
theorem canon_empty (fc : Nat) {fs : Nat} {t : CTy} {m : Bool} (hs : shape defs fs t = .collection m) :
    canon defs cfg fc t (emptyColl m) = some (emptyColl m) ∨ fc ≤ fs ∧ ∀ v, canon defs cfg fc t v = none := by
  induction fc generalizing fs t with
  | zero => exact .inr ⟨Nat.zero_le _, fun _ => rfl⟩
  | succ fc ih =>
    cases t with
    | prim _ | optional _ => simp [shape] at hs
    | list _ | set _ | map _ _ => simp only [shape, Shape.collection.injEq] at hs; subst hs; exact .inl rfl
    | ref n =>
      cases fs with
      | zero => simp [shape] at hs
      | succ k =>
        simp only [shape] at hs
        split at hs
        · next u hd =>
          simp only [canon_ref_alias hd]
          exact (ih hs).imp_right (.imp_left Nat.succ_le_succ)
        · cases hs

theorem canon_empty_collection (defs : Defs) (cfg : Cfg) : ∀ (fuel : Nat) (t : CTy) (isMap : Bool),
    shape defs fuel t = .collection isMap →
    canon defs cfg (fuel + 1) t (if isMap then Doc.obj .nil else Doc.arr .nil) =
      some (if isMap then Doc.obj .nil else Doc.arr .nil) :=
  fun fuel _ _ hs => (canon_empty (fuel + 1) hs).resolve_right fun h => Nat.not_succ_le_self _ h.1

/-- with fuel enough for a collection-shaped type to accept anything at all, it accepts the empty collection -/
theorem canon_empty_of_some {t : CTy} {m : Bool} {v a : Doc} (hs : shape defs fuel t = .collection m)
    (h : canon defs cfg fuel t v = some a) : canon defs cfg fuel t (emptyColl m) = some (emptyColl m) :=
  (canon_empty fuel hs).resolve_right fun h' => nomatch (h'.2 v).symm.trans h

variable {sh : Shape} {name : Bytes} {sub : Doc → Option Doc} {v : Doc}

/-- how a present value is written once it is canonical; for an optional field, `null` is written as an absent one is -/
def written (cfg : Cfg) (sh : Shape) (name : Bytes) (a : Doc) : List (Key × Doc) :=
  match sh with
  | .required => [(.text name, a)]
  | .optional _ =>
    if a matches .null then (if cfg.serializeEmpty then [(.text name, .null)] else []) else [(.text name, a)]
  | .collection _ => if isEmptyColl a && !cfg.serializeEmpty then [] else [(.text name, a)]

theorem fieldPart_some (hv : v ≠ .null) : fieldPart cfg sh name (some v) sub = (sub v).map (written cfg sh name) := by
  -- in each shape `fieldPart`'s clause for a present value applies, the one for `null` before it not matching
  cases sh <;> rw [fieldPart] <;> first | rfl | exact hv

theorem written_optional {i : CTy} {a : Doc} (ha : a ≠ .null) : written cfg (.optional i) name a = [(.text name, a)] := by
  cases a <;> first | rfl | exact absurd rfl ha

theorem given_cases (given : Option Doc) : given = none ∨ given = some .null ∨ ∃ v, given = some v ∧ v ≠ .null := by
  cases given with
  | none => exact .inl rfl
  | some v => exact .inr ((Classical.em (v = .null)).imp (congrArg some) fun hv => ⟨v, rfl, hv⟩)

/-- a field contributes no member or one under its own name, and contributes the same again when it is given what it
contributed.  Of the canonicaliser `sub` of its values this needs, besides `Idem`, that it rejects `null` unless the
field is optional and accepts the empty collection once it accepts anything for a collection field. -/
theorem fieldPart_again {given : Option Doc} {part : List (Key × Doc)} (idem : Idem sub)
    (null : (∀ i, sh ≠ .optional i) → sub .null = none)
    (empty : ∀ m v a, sh = .collection m → sub v = some a → sub (emptyColl m) = some (emptyColl m))
    (h : fieldPart cfg sh name given sub = some part) :
    part = [] ∧ fieldPart cfg sh name none sub = some [] ∨
    ∃ a, part = [(.text name, a)] ∧ fieldPart cfg sh name (some a) sub = some [(.text name, a)] := by
  -- what `sub` returns is written by `written` when it is given again; it is `null` for optional fields only
  have again {v a} (ha : sub v = some a) (hn : a ≠ .null) :
      fieldPart cfg sh name (some a) sub = some (written cfg sh name a) := by
    rw [fieldPart_some hn, idem v a ha]; rfl
  have nonnull {v a} (hs : ∀ i, sh ≠ .optional i) (ha : sub v = some a) : a ≠ .null := by
    rintro rfl
    exact nomatch (null hs).symm.trans (idem _ _ ha)
  cases sh with
  | required =>
    rcases given_cases given with rfl | rfl | ⟨v, rfl, hv⟩
    · cases h
    · cases h
    · rw [fieldPart_some hv] at h
      obtain ⟨a, ha, rfl⟩ := Option.map_eq_some_iff.mp h
      exact .inr ⟨a, rfl, again ha (nonnull nofun ha)⟩
  | optional i =>
    have abs : written cfg (.optional i) name .null = [] ∧ fieldPart cfg (.optional i) name none sub = some [] ∨
        ∃ a, written cfg (.optional i) name .null = [(.text name, a)] ∧
          fieldPart cfg (.optional i) name (some a) sub = some [(.text name, a)] := by
      by_cases hse : cfg.serializeEmpty = true
      · exact .inr ⟨.null, if_pos hse, congrArg some (if_pos hse)⟩
      · exact .inl ⟨if_neg hse, congrArg some (if_neg hse)⟩
    rcases given_cases given with rfl | rfl | ⟨v, rfl, hv⟩
    · cases h; exact abs
    · cases h; exact abs
    · rw [fieldPart_some hv] at h
      obtain ⟨a, ha, rfl⟩ := Option.map_eq_some_iff.mp h
      by_cases hn : a = .null
      · subst hn; exact abs
      · exact .inr ⟨a, written_optional hn, (again ha hn).trans (congrArg some (written_optional hn))⟩
  | collection m =>
    have omitted {e} (he : sub (emptyColl m) = some e) (hse : ¬cfg.serializeEmpty = true) :
        fieldPart cfg (.collection m) name none sub = some [] := by
      show (sub (emptyColl m)).map _ = _
      rw [he, Option.map_some, if_neg hse]
    have kept {v a} (ha : sub v = some a) (hc : ¬(isEmptyColl a && !cfg.serializeEmpty) = true) :
        fieldPart cfg (.collection m) name (some a) sub = some [(.text name, a)] :=
      (again ha (nonnull nofun ha)).trans (congrArg some (if_neg hc))
    rcases given_cases given with rfl | rfl | ⟨v, rfl, hv⟩
    · obtain ⟨e, he, rfl⟩ := Option.map_eq_some_iff.mp h
      by_cases hse : cfg.serializeEmpty = true
      · rw [if_pos hse]; exact .inr ⟨e, rfl, kept he (by simp [hse])⟩
      · rw [if_neg hse]; exact .inl ⟨rfl, omitted he hse⟩
    · cases h
    · rw [fieldPart_some hv] at h
      obtain ⟨a, ha, rfl⟩ := Option.map_eq_some_iff.mp h
      by_cases hc : (isEmptyColl a && !cfg.serializeEmpty) = true
      · rw [Bool.and_eq_true_iff, Bool.not_eq_true'] at hc
        exact .inl ⟨if_pos (by simp [hc]), omitted (empty m v a rfl ha) (by simp [hc.2])⟩
      · exact .inr ⟨a, if_neg hc, kept ha hc⟩

theorem countKey_append (a b : List (Key × Doc)) (k : Key) : countKey (a ++ b) k = countKey a k + countKey b k := by
  simp [countKey, List.filter_append]

theorem flatMap_key {α : Type} {key : α → Key} {P : α → List (Key × Doc)} {l : List α} {a : α}
    (hk : ∀ c ∈ l, ∀ kv ∈ P c, kv.1 = key c) (hnd : l.Pairwise fun c c' => key c ≠ key c') (ha : a ∈ l) :
    (l.flatMap P).lookup (key a) = (P a).lookup (key a) ∧ countKey (l.flatMap P) (key a) = countKey (P a) (key a) := by
  obtain ⟨s, t, rfl⟩ := List.append_of_mem ha
  rw [List.pairwise_append, List.pairwise_cons] at hnd
  -- the members that come from `s` and from `t` have other names
  have other : ∀ r : List α, (∀ c ∈ r, c ∈ s ++ a :: t ∧ key c ≠ key a) →
      (r.flatMap P).lookup (key a) = none ∧ countKey (r.flatMap P) (key a) = 0 := by
    intro r hr
    have : ∀ kv ∈ r.flatMap P, kv.1 ≠ key a := fun kv hkv => by
      obtain ⟨c, hc, hkvc⟩ := List.mem_flatMap.mp hkv
      exact hk c (hr c hc).1 kv hkvc ▸ (hr c hc).2
    exact ⟨List.lookup_eq_none_iff.mpr fun kv hkv => by simpa using (this kv hkv).symm,
      List.length_eq_zero_iff.mpr (List.filter_eq_nil_iff.mpr fun kv hkv => by simpa using this kv hkv)⟩
  have hs := other s fun c hc => ⟨List.mem_append_left _ hc, hnd.2.2 c hc a List.mem_cons_self⟩
  have ht := other t fun c hc => ⟨List.mem_append_right _ (List.mem_cons_of_mem _ hc), (hnd.2.1.1 c hc).symm⟩
  simp [List.lookup_append, countKey_append, hs, ht]

/-- the members one declared field contributes, given all members of the document -/
def objPart (defs : Defs) (cfg : Cfg) (fuel : Nat) (ms : List (Key × Doc)) (f : Bytes × CTy) : Option (List (Key × Doc)) :=
  fieldPart cfg (shape defs fuel f.2) f.1 (ms.lookup (Key.text f.1)) (canon defs cfg fuel f.2)

variable {fields : List (Bytes × CTy)}

theorem canon_ref_object (hd : defs[n]? = some (.object fields)) (ms : Members) :
    canon defs cfg (fuel + 1) (.ref n) (.obj ms) =
      if fields.any (fun f => countKey (members ms) (.text f.1) > 1) then none
      else if cfg.server && (members ms).any (fun m => !(fields.map (fun f => Key.text f.1)).contains m.1) then none
      else (allSome (fields.map (objPart defs cfg fuel (members ms)))).map fun parts => .obj (ofMembers parts.flatten) := by
  simp only [canon, hd]; rfl

theorem objPart_again (ih : ∀ t, Idem (canon defs cfg fuel t)) {ms : List (Key × Doc)} {f : Bytes × CTy}
    {part : List (Key × Doc)} (h : objPart defs cfg fuel ms f = some part) :
    (∀ kv ∈ part, kv.1 = .text f.1) ∧ countKey part (.text f.1) ≤ 1 ∧
    ∀ ms', ms'.lookup (.text f.1) = part.lookup (.text f.1) → objPart defs cfg fuel ms' f = some part := by
  unfold objPart
  rcases fieldPart_again (ih f.2) (canon_null fuel f.2) (fun _ _ _ => canon_empty_of_some) h
    with ⟨rfl, h'⟩ | ⟨a, rfl, h'⟩
  · exact ⟨List.forall_mem_nil _, Nat.zero_le _, fun _ e => e ▸ h'⟩
  · exact ⟨List.forall_mem_singleton.mpr rfl, List.length_filter_le _ _,
      fun _ e => by rw [e, List.lookup_cons_self]; exact h'⟩

/-- what the declared fields contributed to an accepted object, put together, is accepted and comes back unchanged -/
theorem canon_object_again (hd : defs[n]? = some (.object fields)) (hnd : (fields.map (·.1)).Nodup)
    (ih : ∀ t, Idem (canon defs cfg fuel t)) {ms : List (Key × Doc)} {d' : Doc}
    (h : (allSome (fields.map (objPart defs cfg fuel ms))).map (fun parts => Doc.obj (ofMembers parts.flatten)) = some d') :
    canon defs cfg (fuel + 1) (.ref n) d' = some d' := by
  obtain ⟨parts, ha, rfl⟩ := Option.map_eq_some_iff.mp h
  clear h
  -- `P f` is what field `f` contributed
  obtain ⟨P, rfl, hP⟩ := exists_of_allSome_map ha
  have field := fun f (hf : f ∈ fields) => objPart_again ih (hP f hf)
  have named := fun f hf => (field f hf).1
  have found := fun f (hf : f ∈ fields) => flatMap_key (key := fun f => Key.text f.1) named
    ((List.pairwise_map.mp hnd).imp fun h e => h (Key.text.inj e)) hf
  rw [canon_ref_object hd, members_ofMembers, ← List.flatMap_def]
  -- no field twice
  have h1 : ¬fields.any (fun f => countKey (fields.flatMap P) (.text f.1) > 1) = true := by
    simp only [List.any_eq_true, decide_eq_true_eq, not_exists, not_and]
    intro f hf
    have := (found f hf).2 ▸ (field f hf).2.1
    omega
  -- no undeclared field
  have h2 : ¬(cfg.server && (fields.flatMap P).any fun m => !(fields.map fun f => Key.text f.1).contains m.1) = true := by
    simp only [Bool.and_eq_true, List.any_eq_true, Bool.not_eq_true', not_and, not_exists]
    intro _ kv hkv
    obtain ⟨c, hc, hkvc⟩ := List.mem_flatMap.mp hkv
    rw [Bool.not_eq_false, List.contains_iff_mem]
    exact List.mem_map.mpr ⟨c, hc, (named c hc kv hkvc).symm⟩
  -- and every field finds its own contribution again
  have h3 : fields.map (objPart defs cfg fuel (fields.flatMap P)) = (fields.map P).map some := by
    rw [List.map_map]
    exact List.map_congr_left fun f hf => (field f hf).2.2 _ (found f hf).1
  rw [if_neg h1, if_neg h2, h3, allSome_map_some]; rfl

theorem canon_enum_str {values : List Bytes} (hd : defs[n]? = some (.enum values)) (s : Bytes) :
    canon defs cfg (fuel + 1) (.ref n) (.str s) =
      if values.contains s then some (.str s)
      else if !cfg.exhaustive && validVariant s then some (.str s) else none := by
  simp only [canon, hd]

theorem unionPick_typeFirst (name : Bytes) (p : Doc) :
    unionPick typeKey (.str name) (.text name) p = some (name, p) :=
  -- the first member's name is `type`, and the second member's is what the first says
  (if_pos (beq_self_eq_true _)).trans (if_pos (beq_self_eq_true name))

/-- a union document in either member order: what `unionPick` finds decides, and the canonical spelling is type-first -/
theorem canon_union_pick {variants : List (Bytes × CTy)} (hd : defs[n]? = some (.union variants))
    {k1 k2 : Key} {v1 v2 p : Doc} (hp : unionPick k1 v1 k2 v2 = some (name, p)) :
    canon defs cfg (fuel + 1) (.ref n) (.obj (.cons k1 v1 (.cons k2 v2 .nil))) =
      match variants.lookup name with
      | some t => (canon defs cfg fuel t p).map fun p' => .obj (.cons typeKey (.str name) (.cons (.text name) p' .nil))
      | none => if cfg.exhaustive then none else some (.obj (.cons typeKey (.str name) (.cons (.text name) p .nil))) := by
  simp only [canon, hd, members, hp]; rfl

def mapEntry (defs : Defs) (cfg : Cfg) (fuel : Nat) (k v : CTy) (m : Key × Doc) : Option (Key × Doc) :=
  match m.1 with
  | .text s => if keyTy defs fuel k s then (canon defs cfg fuel v m.2).map (fun v' => (m.1, v')) else none
  | .flt _ => none

theorem mapEntry_idem {k v : CTy} (ih : Idem (canon defs cfg fuel v)) : Idem (mapEntry defs cfg fuel k v) := by
  intro m y
  fun_cases mapEntry defs cfg fuel k v m <;> intro hm
  next s text key =>    -- a text key that the key type accepts: kept, with the value canonical
    obtain ⟨v', hv, rfl⟩ := Option.map_eq_some_iff.mp hm
    simp only [mapEntry, text, if_pos key, ih _ _ hv]; rfl
  · cases hm
  · cases hm

/-- what `canon` is, by definition, at a list or set with `f` for the items and at a map with `f` for the entries -/
theorem arr_idem {f : Doc → Option Doc} (hf : Idem f) : Idem fun d : Doc => match d with
    | .arr xs => (allSome ((docsList xs).map f)).map fun ys => .arr (ofDocs ys)
    | _ => none := by
  intro d d' h
  dsimp only at h ⊢
  split at h
  · obtain ⟨ys, hy, rfl⟩ := Option.map_eq_some_iff.mp h
    simp only [docsList_ofDocs, allSome_map_idem hf _ _ hy, Option.map_some]
  · cases h

theorem obj_idem {f : Key × Doc → Option (Key × Doc)} (hf : Idem f) : Idem fun d : Doc => match d with
    | .obj ms => (allSome ((members ms).map f)).map fun ms' => .obj (ofMembers ms')
    | _ => none := by
  intro d d' h
  dsimp only at h ⊢
  split at h
  · obtain ⟨ys, hy, rfl⟩ := Option.map_eq_some_iff.mp h
    simp only [members_ofMembers, allSome_map_idem hf _ _ hy, Option.map_some]
  · cases h

theorem canon_optional {t : CTy} {d : Doc} (hd : d ≠ .null) :
    canon defs cfg (fuel + 1) (.optional t) d = canon defs cfg fuel t d := by
  rw [canon]; exact hd

/-- definitions are well formed when the fields of every object have pairwise distinct names -/
def DefsWF (defs : Defs) : Prop :=
  ∀ (n : Nat) (fields : List (Bytes × CTy)), defs[n]? = some (Def.object fields) → (fields.map (·.1)).Nodup

/-- **the canonical form is a fixed point**: whatever `canon` returns, `canon` returns it unchanged.  By the clauses of
`canon`'s own definition: those that reject have nothing to show, and each that accepts says in what form it answers,
which the clause for that form accepts in turn. -/
theorem canon_idempotent (defs : Defs) (cfg : Cfg) (wf : DefsWF defs) (fuel : Nat) :
    ∀ t : CTy, Idem (canon defs cfg fuel t) := by
  induction fuel using Nat.strongRecOn with | _ fuel ih => ?_
  intro t d d'
  -- the clauses in the order of the definition: 1 no fuel, 2 primitive, 3-4 optional, 5-8 list and set, 9-10 map,
  -- 11 dangling reference, 12 alias, 13-18 enum, 19-22 object, 23-28 union
  fun_cases canon defs cfg fuel t d
  case case2 f p => exact fun h => primCanon_of_ok (primCanon_ok h)
  case case3 f t => rintro ⟨⟩; rfl                -- an optional, `null`
  case case4 f t _ =>                             -- an optional, present: its type `t` answers
    intro h
    have h' := ih f f.lt_succ_self t d d' h
    by_cases hd' : d' = .null
    · subst hd'; rfl
    · rwa [canon_optional hd']
  case case5 f t xs | case7 f t xs => exact arr_idem (ih f f.lt_succ_self t) (.arr xs) d'
  case case9 f k v ms => exact obj_idem (mapEntry_idem (k := k) (ih f f.lt_succ_self v)) (.obj ms) d'
  case case12 f n t hd => rw [canon_ref_alias hd]; exact ih f f.lt_succ_self t d d'
  -- an enum answers with a string: the one it was given, listed or at least valid when the configuration is not
  -- exhaustive, or the listed `s` of the object spelling `{"s": null}`
  case case13 f n values hd s listed => rintro ⟨⟩; rw [canon_enum_str hd]; exact if_pos listed
  case case14 f n values hd s unlisted lenient =>
    rintro ⟨⟩; rw [canon_enum_str hd]; exact (if_neg unlisted).trans (if_pos lenient)
  case case16 f n values hd s listed => rintro ⟨⟩; rw [canon_enum_str hd]; exact if_pos listed
  case case21 f n fields hd ms _ _ _ _ => exact canon_object_again hd (wf n fields hd) (ih f f.lt_succ_self)
  -- a union answers type-first, in whichever order its two members came, and that is the first order `unionPick` tries
  case case24 f n variants hd ms k1 v1 k2 v2 _ _ name p _ t listed =>   -- a listed variant, of type `t`
    intro h
    obtain ⟨p', hp, rfl⟩ := Option.map_eq_some_iff.mp h
    rw [canon_union_pick hd (unionPick_typeFirst ..), listed]
    exact congrArg (Option.map _) (ih f f.lt_succ_self t _ _ hp)
  case case26 f n variants hd ms k1 v1 k2 v2 _ _ name p _ unlisted lenient =>   -- an unlisted one, kept as it is
    rintro ⟨⟩
    rw [canon_union_pick hd (unionPick_typeFirst ..), unlisted]
    exact if_neg lenient
  all_goals rintro ⟨⟩      -- the clauses that reject: `none = some d'`

end ConjureVerif.Wire

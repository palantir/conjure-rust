import ConjureVerif.Model.MacroEmit
import ConjureVerif.Lemmas.UriReq
/-
What a `#[conjure_client]` method writes into its URI, for any template, any arguments and any values, is what the
request normal form C07 reasons about writes: one constant segment per literal component (encoded at expansion time),
one parameter segment per text of the path argument a `{name}` component names, one pair per text of each query
argument, with the encoded key.
-/
namespace ConjureVerif.MacroEmit
open ConjureVerif ConjureVerif.Uri

def segsOf (tbl : List Nat) (pathArgs : List MArg) (vals : Nat → List Bytes) : Comp → List Uri.Seg
  | .lit l => [.lit (encode tbl l)]
  | .param n => match lookup pathArgs n with
    | some a => (vals a.slot).map .param
    | none => []

/-- the request a derived method makes, in C07's normal form -/
def macroReq (tbl : List Nat) (tmpl : List Comp) (pathArgs queryArgs : List MArg) (vals : Nat → List Bytes) : Req where
  segs := tmpl.flatMap (segsOf tbl pathArgs vals)
  query := queryArgs.flatMap (fun a => (vals a.slot).map (fun v => (a.name, v)))

/-- a component the macro can expand: a literal, or a `{name}` that names a path argument -/
def named (pathArgs : List MArg) : Comp → Bool
  | .lit _ => true
  | .param n => (lookup pathArgs n).isSome

/-- a component as the template spells it -/
def Comp.text : Comp → Bytes
  | .lit s => s
  | .param n => 123 :: n ++ [125]

/-- `query_param(&query_params, KEY, ..)` in the server that `#[conjure_endpoints]` derives from the same declaration:
the values the parsed query holds under the key, in order of appearance (`parse_query_params` groups the pairs by
decoded key) -/
def serverQueryValues (pairs : List (Bytes × Bytes)) (k : Bytes) : List Bytes :=
  (pairs.filter (fun p => p.1 == k)).map (·.2)

theorem joinSegs_append (a b : List (List Nat)) : joinSegs (a ++ b) = joinSegs a ++ joinSegs b := by
  simp [joinSegs]

variable (tbl : List Nat) (pathArgs : List MArg) (vals : Nat → List Bytes)

theorem pushes_append (a b : List MCall) :
    pushes vals (a ++ b) = pushes vals a ++ pushes vals b := List.flatMap_append

theorem foldl_pathArg (slot : Nat) (b : Builder) :
    (pushes vals [MCall.pathArg slot]).foldl (Builder.push tbl) b =
      { b with buf := b.buf ++ pathBytes tbl ((vals slot).map Uri.Seg.param) } := by
  simpa [pushes, perform, List.map_map, Function.comp_def, Uri.Seg.push] using
    foldl_path tbl ((vals slot).map Uri.Seg.param) b

theorem foldl_flush (cur : List Bytes) (b : Builder) :
    (pushes vals (if cur.isEmpty then [] else [MCall.lit cur])).foldl (Builder.push tbl) b =
      { b with buf := b.buf ++ joinSegs cur } := by
  cases cur <;> simp [pushes, perform, Builder.push, joinSegs]

/-- the path part: after the derived statements have run, the builder holds the pending literals followed by the
normal form's path -/
theorem foldl_pathWrites (comps : List Comp) (cur : List Bytes) (cs : List MCall)
    (h : pathWrites tbl pathArgs comps cur = some cs) (b : Builder) :
    (pushes vals cs).foldl (Builder.push tbl) b =
      { b with buf := b.buf ++ joinSegs cur ++ pathBytes tbl (comps.flatMap (segsOf tbl pathArgs vals)) } := by
  induction comps generalizing cur cs b with
  | nil =>
    cases h
    rw [foldl_flush]
    exact congrArg (Builder.mk · _) (List.append_nil _).symm
  | cons c r ih =>
    rw [List.flatMap_cons, pathBytes_append]
    cases c with
    | lit l =>
      -- a literal joins the pending ones, and is written with them as their last segment
      rw [ih _ cs h, joinSegs_append]
      simp only [List.append_assoc]
      rfl
    | param n =>
      simp only [pathWrites] at h
      split at h
      · rename_i a rest hl hr
        cases h
        -- the pending literals are flushed, then the argument's texts are pushed, then the rest starts afresh
        rw [pushes_append, List.foldl_append, foldl_flush, ← List.singleton_append, pushes_append, List.foldl_append,
          foldl_pathArg, ih [] rest hr, segsOf, hl]
        simp only [List.append_assoc]
        rfl
      · cases h

theorem pushes_queryWrites (queryArgs : List MArg) :
    pushes vals (queryWrites tbl queryArgs) =
      (queryArgs.flatMap (fun a => (vals a.slot).map (fun v => (a.name, v)))).map
        (fun kv => Push.queryParam (encode tbl kv.1) kv.2) := by
  simp [pushes, queryWrites, List.flatMap_map, List.map_flatMap, perform, Function.comp_def]

theorem pathWrites_isSome (comps : List Comp) (cur : List Bytes) :
    (pathWrites tbl pathArgs comps cur).isSome = comps.all (named pathArgs) := by
  induction comps generalizing cur with
  | nil => rfl
  | cons c r ih =>
    cases c with
    | lit l => simp [pathWrites, ih, named]
    | param n =>
      rw [List.all_cons, ← ih [], pathWrites, named]
      cases lookup pathArgs n <;> cases pathWrites tbl pathArgs r [] <;> rfl

theorem compOf_text (s : Bytes) : (compOf s).text = s := by
  unfold compOf
  split
  · rename_i r
    split
    · rename_i m hm
      simp [Comp.text, List.reverse_eq_iff.mp hm]
    · rfl
  · rfl

theorem serverQueryValues_flatMap (qas : List MArg) (a : MArg) (ha : a ∈ qas)
    (hn : (qas.map (·.name)).Nodup) :
    serverQueryValues (qas.flatMap (fun b => (vals b.slot).map (fun v => (b.name, v)))) a.name = vals a.slot := by
  unfold serverQueryValues
  rw [under_flatMap a.name _ (fun b => b.name == a.name) (fun b => vals b.slot) qas fun b _ => under_pairs _ _ _,
    filter_key_unique (·.name) qas hn a ha, List.flatMap_singleton]

end ConjureVerif.MacroEmit

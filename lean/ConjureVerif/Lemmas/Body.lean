import ConjureVerif.Model.Body
/-
`read_body` is its loop started on an empty buffer (`readBody_eq_readLoop`), and the loop run through error-free
chunks depends on their concatenation alone (`readLoop_oks_append`).  A chunk list is error-free or has a first error
(`chunks_split`); `readBody_oks` and `readBody_err` say what is read in either case, `readBody_ok_iff` when bytes come
back.  C06 and C18 are these facts seen through the server's and the client's deserializer.
-/
namespace ConjureVerif.Body

def oks (bss : List (List Nat)) : List Chunk := bss.map Chunk.ok

theorem within_some (l n : Nat) : within (some l) n = decide (n ≤ l) := rfl

theorem within_zero (limit : Option Nat) : within limit 0 = true := by
  cases limit <;> rfl

theorem within_mono {limit : Option Nat} {n m : Nat} (h : within limit m = true) (hnm : n ≤ m) :
    within limit n = true := by
  cases limit with
  | none => rfl
  | some l => exact decide_eq_true (Nat.le_trans hnm (of_decide_eq_true h))

theorem readBody_eq_readLoop (limit : Option Nat) (cs : List Chunk) : readBody limit cs = readLoop limit [] cs := by
  -- the paths of `read_body`: no chunk; data first, and after it nothing, data or an error; an error first
  rcases cs with _ | ⟨_ | _, rest⟩
  · rfl
  · rcases rest with _ | ⟨_ | _, _⟩ <;>
      simp only [readBody, readLoop, List.nil_append, Bool.not_eq_true', ← Bool.not_eq_true, ite_not]
  · rfl

theorem readLoop_oks_append (limit : Option Nat) (bss : List (List Nat)) (rest : List Chunk) (buf : List Nat)
    (hb : within limit buf.length = true) :
    readLoop limit buf (oks bss ++ rest) =
      if within limit (buf ++ bss.flatten).length then readLoop limit (buf ++ bss.flatten) rest else .tooLarge := by
  induction bss generalizing buf with
  | nil => simp [oks, hb]
  | cons b bss ih =>
    simp only [oks, List.map_cons, List.cons_append, readLoop, List.flatten_cons, ← List.append_assoc]
    split
    · next hw => exact ih _ hw
    · -- over the limit with `b`, so over it with all of `bss`
      next hw => rw [if_neg]; exact fun h => hw (within_mono h (by simp))

theorem readBody_oks (limit : Option Nat) (bss : List (List Nat)) :
    readBody limit (oks bss) =
      if within limit bss.flatten.length then .ok bss.flatten else .tooLarge := by
  have := readLoop_oks_append limit bss [] [] (within_zero limit)
  rwa [List.append_nil, ← readBody_eq_readLoop] at this

theorem readBody_err (limit : Option Nat) (pre : List (List Nat)) (e : Nat) (post : List Chunk) :
    readBody limit (oks pre ++ Chunk.err e :: post) =
      if within limit pre.flatten.length then .err e else .tooLarge := by
  rw [readBody_eq_readLoop]
  exact readLoop_oks_append limit pre _ [] (within_zero limit)

theorem chunks_split (cs : List Chunk) :
    (∃ bss, cs = oks bss) ∨ (∃ pre e post, cs = oks pre ++ Chunk.err e :: post) := by
  induction cs with
  | nil => exact .inl ⟨[], rfl⟩
  | cons c rest ih =>
    cases c with
    | err e => exact .inr ⟨[], e, rest, rfl⟩
    | ok b =>
      rcases ih with ⟨bss, rfl⟩ | ⟨pre, e, post, rfl⟩
      · exact .inl ⟨b :: bss, rfl⟩
      · exact .inr ⟨b :: pre, e, post, rfl⟩

theorem readBody_ok_iff (limit : Option Nat) (cs : List Chunk) (body : List Nat) :
    readBody limit cs = .ok body ↔ (∃ bss, cs = oks bss ∧ body = bss.flatten) ∧ within limit body.length = true := by
  constructor
  · rcases chunks_split cs with ⟨bss, rfl⟩ | ⟨pre, e, post, rfl⟩
    · rw [readBody_oks]; split <;> rintro ⟨⟩; exact ⟨⟨bss, rfl, rfl⟩, ‹_›⟩
    · rw [readBody_err]; split <;> rintro ⟨⟩
  · rintro ⟨⟨bss, rfl, rfl⟩, hw⟩
    rw [readBody_oks, if_pos hw]

theorem std_oks (limit : Nat) (bss : List (List Nat)) (parse : List Nat → Parse) :
    stdDeserialize true limit (oks bss) parse =
      if bss.flatten.length ≤ limit then Outcome.ofParse (parse bss.flatten) else .invalidArgument := by
  unfold stdDeserialize
  rw [readBody_oks, within_some]
  -- (`List.length_flatten` is kept out, here and below: it would rewrite the length that `h` speaks of)
  by_cases h : bss.flatten.length ≤ limit <;> simp [h, -List.length_flatten]

theorem std_err (limit : Nat) (pre : List (List Nat)) (e : Nat) (post : List Chunk) (parse : List Nat → Parse) :
    stdDeserialize true limit (oks pre ++ Chunk.err e :: post) parse =
      if pre.flatten.length ≤ limit then .streamError e else .invalidArgument := by
  unfold stdDeserialize
  rw [readBody_err, within_some]
  by_cases h : pre.flatten.length ≤ limit <;> simp [h, -List.length_flatten]

theorem ser_oks (bss : List (List Nat)) (parse : List Nat → Parse) :
    decodeSerializable true (oks bss) parse = ClientResult.ofParse (parse bss.flatten) := by
  unfold decodeSerializable
  rw [readBody_oks]; rfl

theorem decodeSerializable_range (ctJson : Bool) (cs : List Chunk) (parse : List Nat → Parse) :
    (∃ v, decodeSerializable ctJson cs parse = .value v) ∨ decodeSerializable ctJson cs parse = .error ∨
    (∃ e, decodeSerializable ctJson cs parse = .streamError e) := by
  fun_cases decodeSerializable ctJson cs parse
  · exact .inr (.inl rfl)
  · exact .inr (.inr ⟨_, rfl⟩)
  · exact .inr (.inl rfl)
  · fun_cases ClientResult.ofParse (parse _)
    · exact .inl ⟨_, rfl⟩
    · exact .inr (.inl rfl)

theorem ofParse_handler (p : Parse) (v : Option Nat) :
    Outcome.ofParse p = .handler v ↔ ∃ w, v = some w ∧ p = .value w true := by
  fun_cases Outcome.ofParse p <;> simp [eq_comm]

theorem clientOfParse_value (p : Parse) (v : Nat) :
    ClientResult.ofParse p = .value v ↔ p = .value v true := by
  rcases p with ⟨w, _ | _⟩ | _ <;> simp [ClientResult.ofParse]

end ConjureVerif.Body

/-
Evaluating the pins of the extracted tables (`Gen/*`) without `String.decEq`.

`decide` compares two string literals through their UTF-8 byte arrays, which the kernel builds with `Array.push`: the
work is quadratic in the common prefix, and the items of one Rust file share long ones
(`"Deserializer<'de> for Any::deserialize_"`); `startsWith` and `endsWith` on literals cost several times more.  Two
cheaper ways, both resting on the fact that a literal is `String.ofList` of its characters for the unifier and for the
kernel alike:

* equality: core's simproc `String.reduceEq` proves `"a" = "b"` or its negation from the one character that differs.
  `List.lookup` on a cons is stated here as an `if` on the equality, so that `↓reduceIte` stops at the hit:
    `simp only [Gen.X.hashes, ↓List.lookup_cons_ite, ↓String.reduceEq, ↓reduceIte, and_self]`
* other tests: `String.toList_of_eq` with its hypothesis closed by `rfl` gives the characters of a literal, and
  `String.startsWith_eq_isPrefixOf`, `String.endsWith_eq_isSuffixOf` state the two tests on character lists;
  `List.filter_cons_append` unfolds a filter so that each test is met once:
    `simp (disch := rfl) only [Gen.X.bodies, List.filter_cons_append, List.filter_nil,
      String.startsWith_eq_isPrefixOf, String.toList_of_eq]`
  and what is left is evaluated on characters (`rfl`, `decide +kernel`).

The walk nests one rewriting step per entry, so a key more than about 200 entries down a table exceeds simp's
recursion depth (the longest table has 82).  Where the strings are short and differ early (the keyword lists)
`decide +kernel` is the cheaper evaluation and stays.
The `if` form matters: with `k ≠ a → lookup k ((a, b) :: es) = lookup k es` and `simp only [String.reduceNe]` as
discharger the elaborator checks the simproc's proof (about `String.ofList [..]`) against the hypothesis (about
literals), and unlike the kernel it compares a literal with `String.ofList` of given characters through the byte
arrays: a hundred times dearer per entry.  (Against `String.ofList ?l` it just assigns `?l`; that is the `rfl` above.)
-/

theorem List.lookup_cons_ite {α β} [DecidableEq α] {k a : α} {b : β} {es : List (α × β)} :
    List.lookup k ((a, b) :: es) = if k = a then some b else List.lookup k es := by
  rw [List.lookup]; split <;> simp_all

theorem List.filter_cons_append {α} (p : α → Bool) (a : α) (l : List α) :
    (a :: l).filter p = (if p a then [a] else []) ++ l.filter p := by
  rw [List.filter_cons]; split <;> rfl

theorem String.toList_of_eq {s : String} {l : List Char} (h : s = String.ofList l) : s.toList = l :=
  h ▸ String.toList_ofList

theorem String.startsWith_eq_isPrefixOf (s p : String) : s.startsWith p = p.toList.isPrefixOf s.toList := by
  rw [Bool.eq_iff_iff, String.startsWith_string_iff, List.isPrefixOf_iff_prefix]

theorem String.endsWith_eq_isSuffixOf (s p : String) : s.endsWith p = p.toList.isSuffixOf s.toList := by
  rw [Bool.eq_iff_iff, ← String.endsWith_toSlice, String.Slice.endsWith_string_iff, List.isSuffixOf_iff_suffix,
    String.copy_toSlice]

theorem String.endsWith_append (e s : String) : (e ++ s).endsWith s = true := by
  rw [← String.endsWith_toSlice, String.Slice.endsWith_string_iff, String.copy_toSlice, String.toList_append]
  exact List.suffix_append _ _

import ConjureVerif.Model.Dec
/-
The decimal text of an integer reads back as the integer, under any grammar that reads a digit string led by a
non-zero digit by its value (`parse_showInt`).  All that is used of `showNat` is `showNat_spec`; a digit string grows
at its end, one digit at a time (`parseNatDigits_snoc`; `digitsVal_append` and `isDigit_digit` also serve the
fixed-width fields of Lemmas/Plain).
-/
namespace ConjureVerif.Dec

theorem digitsVal_append (a : List Nat) (c : Nat) :
    digitsVal (a ++ [c]) = digitsVal a * 10 + (c - 48) := by
  simp [digitsVal, List.foldl_append]

theorem showNat_zero : showNat 0 = [48] := by simp [showNat]

theorem isDigit_digit (v : Nat) : isDigit (48 + v % 10) = true := by
  simp [isDigit]; omega

theorem parseNatDigits_snoc {ds : List Nat} {q : Nat} (h : parseNatDigits ds = some q) (r : Nat) :
    parseNatDigits (ds ++ [48 + r % 10]) = some (q * 10 + r % 10) := by
  revert h
  fun_cases parseNatDigits ds <;> rintro ⟨⟩
  next digits =>
    rw [parseNatDigits, if_neg (by simp), List.all_append, digits, digitsVal_append, Nat.add_sub_cancel_left]
    simp [isDigit_digit]

theorem showNat_spec (n : Nat) : ∃ d ds, showNat n = d :: ds ∧ parseNatDigits (d :: ds) = some n ∧
    48 ≤ d ∧ d ≤ 57 ∧ (d = 48 → n = 0) := by
  fun_induction showNat n with
  | case1 n h => exact ⟨48 + n, [], rfl, by simp [parseNatDigits, isDigit, digitsVal]; omega, by omega⟩
  | case2 n h ih =>
    obtain ⟨d, ds, hs, hp, h1, h2, h0⟩ := ih
    refine ⟨d, ds ++ [48 + n % 10], by rw [hs]; rfl, ?_, h1, h2, fun e => ?_⟩
    · rw [← List.cons_append, parseNatDigits_snoc hp, Nat.div_add_mod']
    · exact absurd ((Nat.div_eq_zero_iff_lt (by decide)).mp (h0 e)) h

/-- Leading zeros, `+` and `-0` never occur in `showInt`'s text, so `h0` and `hp` are all the round trip needs of an
    integer grammar.  The `.map` terms are spelt as in `Model/Dec`, so that they elaborate to the same terms (there
    the cast lands on the option, not under the `map`). -/
theorem parse_showInt (p : List Nat → Option Int) (h0 : p [48] = some 0)
    (hp : ∀ d ds, 49 ≤ d → d ≤ 57 → p (d :: ds) = (parseNatDigits (d :: ds)).map (fun n => (n : Int)) ∧
      p (45 :: d :: ds) = (parseNatDigits (d :: ds)).map (fun n => -(n : Int))) (v : Int) :
    p (showInt v) = some v := by
  obtain ⟨d, ds, hs, hn, h1, h2, hd⟩ := showNat_spec v.natAbs
  by_cases hv : v = 0
  · subst hv; rw [showInt, if_neg (by decide), Int.natAbs_zero, showNat_zero, h0]
  · -- the text of a non-zero integer does not begin with `0`
    obtain ⟨hu, hm⟩ := hp d ds (Nat.lt_of_le_of_ne h1 fun e => hv (Int.natAbs_eq_zero.mp (hd e.symm))) h2
    unfold showInt
    rw [hs]
    split
    next hneg =>
      rw [hm, hn]
      exact congrArg some (Int.eq_neg_of_eq_neg (Int.ofNat_natAbs_of_nonpos (Int.le_of_lt hneg))).symm
    next hpos => rw [hu, hn]; exact congrArg some (Int.natAbs_of_nonneg (Int.not_lt.mp hpos))

-- For both grammars `rw` finds the clause that applies to `d :: ds` and to `45 :: d :: ds`, and leaves to show that the
-- clauses before it do not match: each begins with a character (`+`, `-`, `0`) that the digit `d` is not.
theorem parseRust_showInt : ∀ v : Int, parseRust (showInt v) = some v :=
  parse_showInt parseRust (by decide) fun d ds h1 h2 => by
    constructor <;> rw [parseRust] <;> (intros; rename_i e; cases e; omega)

theorem parseJson_showInt : ∀ v : Int, parseJson (showInt v) = some v :=
  parse_showInt parseJson (by decide) fun d ds h1 h2 => by
    constructor <;> rw [parseJson] <;> (intros; rename_i e; cases e; omega)

end ConjureVerif.Dec

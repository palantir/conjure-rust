import ConjureVerif.Model.Boxing
/-
The by-value relation between generated types has no cycle: a rank that every by-value edge strictly lowers.
-/
namespace ConjureVerif.Boxing

theorem needsBoxT_congr (r r' : Nat → Bool) (t : BTy) (h : ∀ m ∈ aliasRefs t, r m = r' m) :
    needsBoxT r t = needsBoxT r' t := by
  induction t with
  | prim => rfl
  | coll => rfl
  | optional t ih => exact ih h
  | ref n => exact h n (List.mem_singleton.mpr rfl)
  | ext fb ih => exact ih h

/-- through optionals and fallbacks, the answer for a type is the answer for the one reference it holds -/
theorem needsBoxT_of_mem (r : Nat → Bool) (t : BTy) (m : Nat) (h : m ∈ aliasRefs t) : needsBoxT r t = r m := by
  induction t with
  | prim => cases h
  | coll => cases h
  | optional t ih => exact ih h
  | ref n => cases List.mem_singleton.mp h; rfl
  | ext fb ih => exact ih h

theorem inlineRefs_unboxed (defs : Defs) (fuel : Nat) (u : Bool) (t : BTy) (m : Nat)
    (h : m ∈ inlineRefs defs fuel u t) : refBoxed defs fuel u m = false := by
  induction t with
  | prim => cases h
  | coll => cases h
  | optional t ih => exact ih h
  | ref n =>
    cases hb : refBoxed defs fuel u n
    · simp only [inlineRefs, hb] at h; cases List.mem_singleton.mp h; exact hb
    · simp [inlineRefs, hb] at h
  | ext fb ih => exact ih h

theorem needsBoxN_nonalias (defs : Defs) (n : Nat) (h : ∀ t, defs[n]? ≠ some (.alias t)) (f : Nat) :
    needsBoxN defs f n = needsBoxN defs 0 n := by
  cases f with
  | zero => rfl
  | succ f =>
    simp only [needsBoxN]
    cases hd : defs[n]? with
    | none => rfl
    | some d => cases d with
      | alias t => exact absurd hd (h t)
      | _ => rfl

/-- the conditions under which the recursion through aliases is well founded: a Conjure compiler rule (no alias
cycle), here as a depth that every alias-to-alias step lowers -/
structure AliasWF (defs : Defs) (depth : Nat → Nat) (D : Nat) : Prop where
  bound : ∀ n, depth n < D
  step : ∀ n t, defs[n]? = some (.alias t) → ∀ m ∈ aliasRefs t, ∀ t', defs[m]? = some (.alias t') → depth m < depth n

section
variable {defs : Defs} {depth : Nat → Nat} {D : Nat}

/-- **enough fuel is stable**: an alias answers alike for any two amounts of fuel above its depth -/
theorem needsBoxN_stable (wf : AliasWF defs depth D) (f g n : Nat)
    (h : ∀ t, defs[n]? = some (.alias t) → depth n < f ∧ depth n < g) : needsBoxN defs f n = needsBoxN defs g n := by
  by_cases ha : ∃ t, defs[n]? = some (.alias t)
  · obtain ⟨t, ht⟩ := ha
    match f, g, h t ht with      -- an alias has fuel left on both sides (`h`)
    | f + 1, g + 1, _ =>
      simp only [needsBoxN, ht]
      refine needsBoxT_congr _ _ t fun m hm => needsBoxN_stable wf f g m fun t' ht' => ?_
      have := wf.step n t ht m hm t' ht'
      omega
  · have h0 := needsBoxN_nonalias defs n fun t h => ha ⟨t, h⟩
    rw [h0 f, h0 g]

/-- so with enough fuel the bounded recursion satisfies the equation of the generator's unbounded `ref_needs_box` -/
theorem needsBoxN_eq (wf : AliasWF defs depth D) {fuel : Nat} (hfuel : D < fuel) (n : Nat) :
    needsBoxN defs fuel n =
      match defs[n]? with
      | some (.alias t) => needsBoxT (needsBoxN defs fuel) t
      | some (.object _) => true
      | some (.union _) => true
      | _ => false := by
  cases fuel with
  | zero => exact absurd hfuel (Nat.not_lt_zero D)
  | succ f =>
    -- the last unit of fuel changes no answer, and with `f` on the right the equation is the definition
    have : needsBoxN defs (f + 1) = needsBoxN defs f :=
      funext fun m => needsBoxN_stable wf _ _ m fun _ _ => by have := wf.bound m; omega
    conv => rhs; rw [this]
    rfl

/-- the rank: what is not boxed lies below what is; on either level aliases, by depth, lie above unions, and unions
above the rest -/
def rank (defs : Defs) (fuel : Nat) (depth : Nat → Nat) (D : Nat) (n : Nat) : Nat :=
  let level := if needsBoxN defs fuel n then D + 2 else 0
  match defs[n]? with
  | some (.alias _) => level + depth n + 2
  | some (.union _) => level + 1
  | _ => level

/-- what a field (`u = false`) or a variant holds without a `Box` is on the lower level, or is an object in a union -/
theorem rank_of_inline (wf : AliasWF defs depth D) {fuel : Nat} (hfuel : D < fuel) {u : Bool} {f : BTy} {m : Nat}
    (hm : m ∈ inlineRefs defs fuel u f) : rank defs fuel depth D m < D + 2 + u.toNat := by
  have h := inlineRefs_unboxed defs fuel u f m hm
  have hb := wf.bound m
  unfold refBoxed at h
  unfold rank
  rw [needsBoxN_eq wf hfuel m]
  cases hd : defs[m]? with
  | none =>
    simp only [Bool.false_eq_true, if_false]
    omega
  | some d =>
    simp only [hd] at h
    cases d with
    | alias t =>
      simp only [h, Bool.false_eq_true, if_false]
      omega
    | enum =>
      simp only [Bool.false_eq_true, if_false]
      omega
    -- the one case that is not "lower level": an object is held unboxed by a union (`u = true`) only, and lies
    -- below it on their level
    | object fs => simp [show u = true by simpa using h]
    | union fs => cases h

/-- **every by-value edge lowers the rank**: a field or variant leads from the upper level to the lower one, or from a
union to an object; an alias is boxed exactly when the one type it wraps is, and lies above it on their level -/
theorem succ_rank (wf : AliasWF defs depth D) {fuel : Nat} (hfuel : D < fuel) (n m : Nat) (h : m ∈ succ defs fuel n) :
    rank defs fuel depth D m < rank defs fuel depth D n := by
  unfold succ at h
  cases hd : defs[n]? with
  | none => simp [hd] at h
  | some d =>
    cases d with
    | enum => simp [hd] at h
    | object fs | union fs =>
      simp only [hd, List.mem_flatMap] at h
      obtain ⟨f, _, hm⟩ := h
      simp only [rank, needsBoxN_eq wf hfuel n, hd, if_true]
      exact rank_of_inline wf hfuel hm
    | alias t =>
      simp only [hd] at h
      have hb : needsBoxN defs fuel n = needsBoxN defs fuel m := by
        rw [needsBoxN_eq wf hfuel n, hd]
        exact needsBoxT_of_mem _ t m h
      simp only [rank, hd, hb]
      -- `n` and `m` are on one level (`hb`), where an alias lies above everything that is none
      split
      · next hm =>      -- `m` is an alias again: the depth falls
        have := wf.step n t hd m h _ hm
        omega
      · omega           -- `m` is a union
      · omega           -- `m` is an object, an enum or undefined

end

/-- a chain of by-value containments -/
inductive Holds (defs : Defs) (fuel : Nat) : Nat → Nat → Prop
  | direct {n m : Nat} : m ∈ succ defs fuel n → Holds defs fuel n m
  | step {n m k : Nat} : m ∈ succ defs fuel n → Holds defs fuel m k → Holds defs fuel n k

theorem holds_rank {defs : Defs} {depth : Nat → Nat} {D : Nat} (wf : AliasWF defs depth D) {fuel : Nat}
    (hfuel : D < fuel) {n m : Nat} (h : Holds defs fuel n m) : rank defs fuel depth D m < rank defs fuel depth D n := by
  induction h with
  | direct h => exact succ_rank wf hfuel _ _ h
  | step h _ ih => have := succ_rank wf hfuel _ _ h; omega

end ConjureVerif.Boxing

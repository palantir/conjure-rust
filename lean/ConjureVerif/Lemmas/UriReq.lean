import ConjureVerif.Lemmas.Uri
/-
Structured requests: a path template instantiated with parameter values plus query pairs, the pushes a
client method performs for it, the normal form of the bytes those pushes produce (`buildBuf_eq`), and where the
server cuts that normal form (`splitFirst_buildBuf`) and how it parses the query part back (`parseQuery_queryText`).
-/
namespace ConjureVerif.Uri

inductive Seg
  | lit (s : List Nat)       -- constant template segment, as written into the URI
  | param (v : List Nat)     -- parameter value (PLAIN text bytes)

def Seg.raw (tbl : List Nat) : Seg → List Nat
  | .lit s => s
  | .param v => encode tbl v

def Seg.push : Seg → Push
  | .lit s => .literal [s]
  | .param v => .pathParam v

structure Req where
  segs : List Seg
  query : List (List Nat × List Nat)   -- (key, value), both as the caller supplies them

def pair (tbl : List Nat) (kv : List Nat × List Nat) : List Nat := encode tbl kv.1 ++ 61 :: encode tbl kv.2

def Req.pushes (tbl : List Nat) (r : Req) : List Push :=
  r.segs.map Seg.push ++ r.query.map (fun kv => Push.queryParam (encode tbl kv.1) kv.2)

def pathBytes (tbl : List Nat) (segs : List Seg) : List Nat := joinSegs (segs.map (Seg.raw tbl))

/-- the escaped pairs, `&` before every pair but the first -/
def queryText (tbl : List Nat) (q : List (List Nat × List Nat)) : List Nat :=
  (q.map (fun kv => 38 :: pair tbl kv)).flatten.tail

def queryBytes (tbl : List Nat) (q : List (List Nat × List Nat)) : List Nat :=
  if q.isEmpty then [] else 63 :: queryText tbl q

theorem pathBytes_append (tbl : List Nat) (a b : List Seg) :
    pathBytes tbl (a ++ b) = pathBytes tbl a ++ pathBytes tbl b := by
  simp [pathBytes, joinSegs]

theorem foldl_path (tbl : List Nat) (segs : List Seg) (b : Builder) :
    (segs.map Seg.push).foldl (Builder.push tbl) b = { b with buf := b.buf ++ pathBytes tbl segs } := by
  induction segs generalizing b with
  | nil => simp [pathBytes, joinSegs]
  | cons s ss ih =>
    rw [List.map_cons, List.foldl_cons, ih]
    cases s <;> simp [Seg.push, Builder.push, pathBytes, joinSegs, Seg.raw]

theorem foldl_query_amp (tbl : List Nat) (q : List (List Nat × List Nat)) (buf : List Nat) :
    (q.map (fun kv => Push.queryParam (encode tbl kv.1) kv.2)).foldl (Builder.push tbl) ⟨buf, false⟩ =
      ⟨buf ++ (q.map (fun kv => 38 :: pair tbl kv)).flatten, false⟩ := by
  induction q generalizing buf with
  | nil => simp
  | cons kv rest ih =>
    rw [List.map_cons, List.foldl_cons, Builder.push, ih]
    simp [pair]

theorem foldl_query (tbl : List Nat) (q : List (List Nat × List Nat)) (b : Builder) (hb : b.inPath = true) :
    ((q.map (fun kv => Push.queryParam (encode tbl kv.1) kv.2)).foldl (Builder.push tbl) b).buf =
      b.buf ++ queryBytes tbl q := by
  cases q with
  | nil => simp [queryBytes]
  | cons kv rest =>
    rw [List.map_cons, List.foldl_cons, Builder.push, foldl_query_amp]
    simp [hb, pair, queryBytes, queryText]

theorem buildBuf_eq (tbl : List Nat) (r : Req) :
    buildBuf tbl (r.pushes tbl) = pathBytes tbl r.segs ++ queryBytes tbl r.query := by
  unfold buildBuf Req.pushes
  rw [List.foldl_append, foldl_path, foldl_query _ _ _ rfl, List.nil_append]

/-- where the server cuts the request target: at the `?` the first query pair brought, if the path holds none -/
theorem splitFirst_buildBuf (tbl : List Nat) (r : Req) (h : 63 ∉ pathBytes tbl r.segs) :
    splitFirst 63 (buildBuf tbl (r.pushes tbl)) =
      (pathBytes tbl r.segs, if r.query.isEmpty then none else some (queryText tbl r.query)) := by
  rw [buildBuf_eq, queryBytes]
  split
  · rw [List.append_nil, splitFirst_not_mem 63 _ h]
  · rw [splitFirst_append 63 _ _ h]

theorem not_mem_queryBytes {tbl : List Nat} {d : Nat} (h63 : d ≠ 63) (h38 : d ≠ 38) {q : List (List Nat × List Nat)}
    (h : ∀ kv ∈ q, d ∉ pair tbl kv) : d ∉ queryBytes tbl q := by
  unfold queryBytes
  split
  · exact List.not_mem_nil
  · exact fun hm => (List.mem_cons.mp hm).elim h63 fun hm => not_mem_sepBy h38 _ h (List.mem_of_mem_tail hm)

/-- the server's query parser inverts the query normal form: the text splits at `&` into the pairs, none of them
empty, and each pair at its first `=` into key and value, which decode back; what this needs of an escaped pair is
asked of each -/
theorem parseQuery_queryText (tbl : List Nat) (q : List (List Nat × List Nat))
    (h : ∀ kv ∈ q, 38 ∉ pair tbl kv ∧ 61 ∉ encode tbl kv.1 ∧
      formDecode (encode tbl kv.1) = kv.1 ∧ formDecode (encode tbl kv.2) = kv.2) :
    parseQuery (queryText tbl q) = q := by
  cases q with
  | nil => rfl
  | cons kv rest =>
    rw [parseQuery, queryText, List.map_cons, List.flatten_cons, List.cons_append, List.tail_cons,
      splitOn_sepBy 38 (pair tbl) rest (fun kv hkv => (h kv (List.mem_cons_of_mem _ hkv)).1) _ (h kv List.mem_cons_self).1,
      ← List.map_cons, List.filter_eq_self.mpr (List.forall_mem_map.mpr fun kv _ => by simp [pair]), List.map_map]
    refine (List.map_congr_left fun kv hkv => ?_).trans (List.map_id _)
    obtain ⟨-, h61, hk, hv⟩ := h kv hkv
    simp [pair, splitFirst_append 61 _ _ h61, hk, hv]

end ConjureVerif.Uri

import ConjureVerif.Model.Call
import ConjureVerif.Props.C07
/-
The client call of C04, from the argument list to what the endpoint is handed (`serverRequest_some`): the URI is
`uriReq`'s, a request in C07's normal form (`uriReq_wf`), so C07's theorems say what the router (`route_uri`) and the
query parser (`query_values`) make of it; the header list has a closed form (`clientHeaders_eq`).  Rests on the
property theorems of C07, hence the import of a property file.
-/
namespace ConjureVerif.Call
open ConjureVerif ConjureVerif.Endpoint ConjureVerif.Uri ConjureVerif.C07

/-- a call the generator can emit: literal template segments contain none of `/ ? #`, every text and key is a
byte string -/
structure CallWF (tmpl : List TSeg) (args : List CArg) : Prop where
  lits : ∀ s, TSeg.lit s ∈ tmpl → 47 ∉ s ∧ 63 ∉ s ∧ 35 ∉ s
  texts : ∀ a ∈ args, ∀ t ∈ a.texts, Bytes t
  keys : ∀ a ∈ args, Bytes a.spec.name

theorem pathText_bytes {tmpl : List TSeg} {args : List CArg} (wf : CallWF tmpl args) (n : Endpoint.Bytes) :
    Bytes (pathText args n) := by
  unfold pathText
  split
  · rename_i a h
    cases ht : a.texts with
    | nil => exact fun b hb => nomatch hb
    | cons t ts => exact wf.texts a (List.mem_of_find?_eq_some h) t (ht ▸ List.mem_cons_self)
  · exact fun b hb => nomatch hb

theorem pathText_of_mem {args : List CArg} {a : CArg} (ha : a ∈ args) (hk : a.spec.kind = .path)
    (hn : ((args.filter (fun a => a.spec.kind == .path)).map (·.spec.name)).Nodup) :
    pathText args a.spec.name = a.texts.headD [] := by
  have h := filter_key_unique (·.spec.name) _ hn a (List.mem_filter.mpr ⟨ha, by simp [hk]⟩)
  rw [List.filter_filter, List.filter_congr fun b _ => Bool.and_comm _ _] at h
  rw [pathText, ← List.head?_filter, h]
  rfl

theorem uriReq_wf {tmpl : List TSeg} {args : List CArg} (wf : CallWF tmpl args) : WF (uriReq tmpl args) where
  lits s hs := by
    obtain ⟨sg, hsg, he⟩ := List.mem_map.mp hs
    cases sg <;> cases he
    exact wf.lits _ hsg
  params v hv := by
    obtain ⟨sg, hsg, he⟩ := List.mem_map.mp hv
    cases sg <;> cases he
    exact pathText_bytes wf _
  keys kv hkv := by
    simp only [uriReq, queryPairs, List.mem_flatMap, List.mem_filter, List.mem_map] at hkv
    obtain ⟨a, ⟨ha, -⟩, t, ht, rfl⟩ := hkv
    exact ⟨wf.keys a ha, wf.texts a ha t ht⟩

theorem uriReq_cons (tmpl : List TSeg) (a : CArg) (cs : List CArg) (hp : a.spec.kind ≠ .path) (hq : a.spec.kind ≠ .query) :
    uriReq tmpl (a :: cs) = uriReq tmpl cs := by
  simp [uriReq, queryPairs, pathText, hp, hq]

/-- the path parameters the router extracts for this call -/
def routed (tbl : List Nat) (tmpl : List TSeg) (args : List CArg) : List (Endpoint.Bytes × Endpoint.Bytes) :=
  tmpl.filterMap (fun s => match s with
    | .lit _ => none
    | .param n => some (n, encode tbl (pathText args n)))

theorem route_self (tbl : List Nat) (args : List CArg) (tmpl : List TSeg) :
    route tmpl ((uriReq tmpl args).segs.map (Seg.raw tbl)) = some (routed tbl tmpl args) := by
  induction tmpl with
  | nil => rfl
  | cons s ts ih =>
    cases s with
    | lit s => exact (if_pos (beq_self_eq_true s)).trans ih
    | param n => exact congrArg (Option.map _) ih

theorem route_uri (tbl : List Nat) (g : Good tbl) (tmpl : List TSeg) (args : List CArg) (wf : CallWF tmpl args) :
    route tmpl (rawSegments (uriBytes tbl tmpl args)) = some (routed tbl tmpl args) := by
  rw [uriBytes, C07_segments tbl g (uriReq tmpl args) (uriReq_wf wf)]
  exact route_self tbl args tmpl

theorem routed_lookup (tbl : List Nat) (args : List CArg) (n : Endpoint.Bytes) (tmpl : List TSeg)
    (h : TSeg.param n ∈ tmpl) : (routed tbl tmpl args).lookup n = some (encode tbl (pathText args n)) := by
  induction tmpl with
  | nil => cases h
  | cons s ts ih =>
    cases s with
    | lit s => exact ih (by simpa using h)
    | param m =>
      simp only [routed, List.filterMap_cons, List.lookup]
      split
      · rename_i e; rw [eq_of_beq e]
      · rename_i e
        exact ih ((List.mem_cons.mp h).resolve_left fun h' => by cases h'; simp at e)

theorem query_values (tbl : List Nat) (g : Good tbl) (tmpl : List TSeg) (args : List CArg) (wf : CallWF tmpl args)
    (r : Request) (hq : r.query = queryOf (uriBytes tbl tmpl args)) (key : Endpoint.Bytes) :
    queryVals r key =
      ((args.filter (fun a => a.spec.kind == .query)).filter (fun a => a.spec.name == key)).flatMap (·.texts) := by
  -- the server parses the query back into `uriReq`'s pairs (`C07_pairs`); those are, argument by argument, key and
  -- text, so the values under `key` are the texts of the query arguments of that key (`under_flatMap`)
  have hp := C07_pairs tbl g (uriReq tmpl args) (uriReq_wf wf)
  rw [← under_flatMap key _ _ _ _ fun a _ => under_pairs key a.spec.name a.texts, queryVals, hq, uriBytes]
  change _ = (((uriReq tmpl args).query).filter _).map _
  by_cases hne : (uriReq tmpl args).query = []
  · rw [hp.1 hne, hne]; rfl
  · obtain ⟨q, h1, h2⟩ := hp.2 hne
    rw [h1, ← h2]

def headerLines (a : CArg) : List (Endpoint.Bytes × Endpoint.Bytes) :=
  match a.spec.kind with
  | .header => a.texts.map (fun t => (a.spec.name, t))
  | .auth => [(authorization, bearer ++ a.texts.headD [])]
  | .cookie => [(cookie, a.spec.name ++ a.texts.headD [])]
  | _ => []

/-- can `HeaderValue` carry every text the argument puts into a header? -/
def sendable (a : CArg) : Bool := a.spec.kind != .header || a.texts.all headerValueOk

/-- one step of `clientHeaders`, the same for every kind: an argument that is not sendable refuses the call, any other
puts its lines in front -/
theorem clientHeaders_cons (a : CArg) (rest : List CArg) :
    clientHeaders (a :: rest) = if sendable a then (clientHeaders rest).map (headerLines a ++ ·) else none := by
  rw [clientHeaders, sendable, headerLines]
  cases a.spec.kind
  -- for the three kinds that write a header both sides compute to the same term; the others put `[]` in front
  case header | auth | cookie => rfl
  all_goals exact Option.map_id'.symm

theorem clientHeaders_eq (args : List CArg) :
    clientHeaders args = if args.all sendable then some (args.flatMap headerLines) else none := by
  induction args with
  | nil => rfl
  | cons a rest ih =>
    rw [clientHeaders_cons, ih, List.all_cons, List.flatMap_cons]
    cases sendable a <;> cases rest.all sendable <;> rfl

theorem serverRequest_some {tbl : List Nat} (g : Good tbl) {tmpl : List TSeg} {args : List CArg} (wf : CallWF tmpl args)
    {ct : CtClass} {pl : Payload} {dbl : List (Endpoint.Bytes × Bool)} {r : Request}
    (hr : serverRequest tbl tmpl args ct pl dbl = some r) :
    r = ⟨routed tbl tmpl args, queryOf (uriBytes tbl tmpl args), args.flatMap headerLines, ct, pl, dbl⟩ := by
  rw [serverRequest, route_uri tbl g tmpl args wf, clientHeaders_eq] at hr
  revert hr
  cases args.all sendable <;> intro hr <;> cases hr
  rfl

theorem clientHeaders_none_iff (args : List CArg) :
    clientHeaders args = none ↔ ∃ a ∈ args, a.spec.kind = .header ∧ ∃ t ∈ a.texts, headerValueOk t = false := by
  simp [clientHeaders_eq, sendable]

theorem headerLines_vals (args : List CArg) (name : Endpoint.Bytes) (ha : name ≠ authorization) (hc : name ≠ cookie) :
    ((args.flatMap headerLines).filter (fun h => h.1 == name)).map (·.2) =
      ((args.filter (fun a => a.spec.kind == .header)).filter (fun a => a.spec.name == name)).flatMap (·.texts) := by
  rw [List.filter_filter, List.filter_congr fun b _ => Bool.and_comm _ _]
  refine under_flatMap name _ _ _ _ fun a _ => ?_
  -- a header argument's lines are its texts under its name; the auth and the cookie line stand under other names;
  -- the other kinds write no line (both sides compute)
  rw [headerLines]
  cases a.spec.kind
  case header => exact under_pairs name a.spec.name a.texts
  case auth => exact (under_pairs name authorization [_]).trans (if_neg (by simpa using ha.symm))
  case cookie => exact (under_pairs name cookie [_]).trans (if_neg (by simpa using hc.symm))
  all_goals rfl

theorem authorization_ne_cookie : authorization ≠ cookie := by decide

theorem headerLines_auth_vals (args : List CArg)
    (hres : ∀ a ∈ args, a.spec.kind = .header → a.spec.name ≠ authorization) :
    ((args.flatMap headerLines).filter (fun h => h.1 == authorization)).map (·.2) =
      (args.filter (fun a => a.spec.kind == .auth)).map (fun a => bearer ++ a.texts.headD []) := by
  refine (under_flatMap authorization _ _ _ _ fun a ha => ?_).trans List.map_eq_flatMap.symm
  -- a header argument's lines stand under its own name, which is another; for the other kinds both sides compute
  rw [headerLines]
  cases hk : a.spec.kind
  case header => exact (under_pairs authorization a.spec.name a.texts).trans (if_neg (by simpa using hres a ha hk))
  all_goals rfl

theorem headerLines_cookie_vals (args : List CArg)
    (hres : ∀ a ∈ args, a.spec.kind = .header → a.spec.name ≠ cookie) :
    ((args.flatMap headerLines).filter (fun h => h.1 == cookie)).map (·.2) =
      (args.filter (fun a => a.spec.kind == .cookie)).map (fun a => a.spec.name ++ a.texts.headD []) := by
  refine (under_flatMap cookie _ _ _ _ fun a ha => ?_).trans List.map_eq_flatMap.symm
  rw [headerLines]
  cases hk : a.spec.kind
  case header => exact (under_pairs cookie a.spec.name a.texts).trans (if_neg (by simpa using hres a ha hk))
  all_goals rfl

end ConjureVerif.Call
